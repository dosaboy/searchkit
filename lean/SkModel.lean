-- Root of the `SkModel` library: models, specifications, proofs, property theorems.
import SkModel.Basic
import SkModel.Task
import SkModel.Result
import SkModel.Spec.Simple
import SkModel.Spec.Sequence
import SkModel.Proofs.Solo
import SkModel.Proofs.Trans
import SkModel.Store
import SkModel.Seeker
import SkModel.Spec.Lines
import SkModel.Proofs.ExceptLemmas
import SkModel.Proofs.SeqPlan
import SkModel.Proofs.DefStep
import SkModel.Proofs.TaskProj
import SkModel.Proofs.SimpleCore
import SkModel.Theorems.C01
import SkModel.Proofs.SeqCore
import SkModel.Theorems.C03
import SkModel.Proofs.StoreInv
import SkModel.Theorems.C15
import SkModel.Spec.Gate
import SkModel.Proofs.LineFeeds
import SkModel.Proofs.SeekL1
import SkModel.Theorems.C11
import SkModel.Since
import SkModel.Proofs.SeekShape
import SkModel.Proofs.Gate
import SkModel.Theorems.C07
import SkModel.Collection
import SkModel.Proofs.Calendar
import SkModel.Proofs.StdFormat
import SkModel.Theorems.C16
import SkModel.Proofs.Grouping
import SkModel.Proofs.CollLemmas
import SkModel.Theorems.C14
import SkModel.Proofs.SeekBisect
import SkModel.Proofs.Seek4Lines
import SkModel.Proofs.SeekGov
import SkModel.Proofs.Seek4Spec
import SkModel.Theorems.C04
import SkModel.ParStore
import SkModel.Encode
import SkModel.Runner
import SkModel.Proofs.EncodeLemmas
import SkModel.Theorems.C05
import SkModel.Collect
import SkModel.Gzip
import SkModel.Theorems.C12
import SkModel.Proofs.ParInv
import SkModel.Proofs.ParInvLocal
import SkModel.Proofs.ParInvProgress
import SkModel.Theorems.C06
import SkModel.Proofs.RunnerLemmas
import SkModel.Proofs.PoolInv
import SkModel.Proofs.Persist
import SkModel.Theorems.C18
import SkModel.Theorems.C17
import SkModel.Theorems.C08
import SkModel.Proofs.Outcome
import SkModel.Theorems.C13
import SkModel.Catalog
import SkModel.Proofs.CollectInv
import SkModel.Theorems.C02
import SkModel.Cache
import SkModel.Fault
import SkModel.Proofs.CatalogLemmas
import SkModel.Theorems.C09
import SkModel.Proofs.CacheInv
import SkModel.Theorems.C19
import SkModel.Proofs.FaultInv
import SkModel.Theorems.C10
import SkModel.NameRx
import SkModel.Fast
import SkModel.ParEncode
import SkModel.Theorems.C05Par
import SkModel.Theorems.C09Rx
import SkModel.StdTs
import SkModel.Theorems.C04Std
import SkModel.Searcher
import SkModel.Theorems.C07Global
import SkModel.Theorems.C16Std
import SkModel.SourceIds
import SkModel.SeekerND
import SkModel.Theorems.C11ND
import SkModel.Theorems.C02Ids
import SkModel.Gen.PyPrim
import SkModel.Gen.Generated
import SkModel.Gen.Bridge
import SkModel.Gen.BridgeStore
