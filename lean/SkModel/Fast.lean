/-
  SkModel.Fast — linear-time implementations for the *compiled* form of the models.

  The definitions in `SkModel.Task`, `SkModel.Runner`, `SkModel.Gzip`, `SkModel.Collect`,
  `SkModel.Spec.Sequence` and `SkModel.Spec.Gate` are written for proofs: `lineStep` appends to
  the end of the growing result list once per line, `seqStep` to the end of the per-sequence
  result list once per result, `flushBatchesGo` to the end of the buffer once per result, and
  `Spec.firstFrom` materialises the whole remaining line range before searching it - all
  of which is quadratic at run time.  Nothing about those definitions changes here.
  `seqStep`, `defStep`, `defsStep` get versions with a reversed accumulator, related to the
  originals by `revSt` (`seqStepR_eq`, `defStepR_eq`, `defsStepR_eq`); `linesLoop` and every
  function above it on the call path from the driver (also `executeDisk`, which the driver does
  not call), `flushBatchesGo`, `flushBatches`, `CState.init`, `Spec.firstFrom` and its callers
  get a function that computes the same value in linear time and a *proved* equation
  `@f = @fFast` tagged `@[csimp]`; the code generator then uses `fFast` wherever a module that
  imports this file mentions `f`.  The kernel-level definitions and every theorem about them are
  untouched (csimp only affects compilation, and only through a proved equality).

  A module whose compiled code should use the fast versions must import this file
  (the csimp lemmas rewrite the calls of functions compiled *after* they are declared).
  Nothing warns when compiled code uses a slow form: a new caller of `linesLoop`,
  `flushBatches` or `Spec.firstFrom` defined in a module that does not import this file keeps
  the slow callee until its body is repeated here with a `@[csimp]` equation of its own.
-/
import SkModel.Task
import SkModel.Runner
import SkModel.Gzip
import SkModel.Collect
import SkModel.Spec.Sequence
import SkModel.Spec.Gate

namespace Sk.Fast

/-! `seqStep` appends each sequence result to the end of `st.seqRes`.  The `…R` versions
  below are the same functions, word for word, except that they push the result on the
  front; they are related to the originals by `revSt` (which reverses `seqRes`). -/

def revSt (st : DSt) : DSt := { st with seqRes := st.seqRes.reverse }

@[simp] theorem revSt_revSt (st : DSt) : revSt (revSt st) = st := by
  simp [revSt]

def seqStepR (id : Nat) (s : SeqDef) (i : Nat) (st : DSt) : Except Err DSt :=
  let ret0 := s.start.run i
  let (st, ret, viaEnd) :=
    match s.end_ with
    | some e =>
      if st.started then
        if ret0.isSome then
          ({ st with seqRes := st.seqRes.filter (fun r => r.sec != some (id, st.sec)),
                     started := false }, ret0, false)
        else (st, e.run i, true)
      else (st, ret0, false)
    | none => (st, ret0, false)
  match ret with
  | some m =>
    if !st.started then do
      let sec := st.cnt
      let r ← mkSeqRes id s "-start" s.start (i + 1) sec m
      pure { st with started := true, cnt := st.cnt + 1, sec := sec,
                     seqRes := r :: st.seqRes, everAdded := true }
    else
      match s.end_ with
      | some e => do
        let _ := viaEnd
        let r ← mkSeqRes id s "-end" e (i + 1) st.sec m
        pure { st with started := false, cnt := st.cnt + 1, sec := st.cnt,
                       seqRes := r :: st.seqRes, everAdded := true }
      | none => do
        let sec := st.cnt + 1
        let r ← mkSeqRes id s "-start" s.start (i + 1) sec m
        pure { st with started := true, cnt := st.cnt + 2, sec := sec,
                       seqRes := r :: st.seqRes, everAdded := true }
  | none =>
    if st.started then
      match s.body with
      | some b =>
        match b.run i with
        | some m => do
          let r ← mkSeqRes id s "-body" b (i + 1) st.sec m
          pure { st with seqRes := r :: st.seqRes, everAdded := true }
        | none => pure st
      | none => pure st
    else pure st

theorem bind_revSt (x : Except Err Res) {mk mkR : Res → DSt} (h : ∀ r, mkR r = revSt (mk r)) :
    (x >>= fun r => pure (mkR r)) = (x >>= fun r => pure (mk r)).map revSt := by
  cases x
  · rfl
  · exact congrArg Except.ok (h _)

theorem seqStepR_eq (id : Nat) (s : SeqDef) (i : Nat) (st : DSt) :
    seqStepR id s i (revSt st) = (seqStep id s i st).map revSt := by
  obtain ⟨run, started, cnt, sec, res, ever⟩ := st
  unfold seqStepR seqStep
  -- leaf by leaf along the common decision tree: nothing filed by `rfl`, a result by `bind_revSt`
  rcases s.start.run i with _ | m <;> cases started <;> rcases s.end_ with _ | e
  · rfl
  · rfl
  · rcases s.body with _ | b
    · rfl
    · dsimp only; cases b.run i
      · rfl
      · exact bind_revSt _ fun r => by simp [revSt]
  · dsimp only
    rcases e.run i with _ | m
    · rcases s.body with _ | b
      · rfl
      · dsimp only; cases b.run i
        · rfl
        · exact bind_revSt _ fun r => by simp [revSt]
    · exact bind_revSt _ fun r => by simp [revSt]
  all_goals
    simp only [Option.isSome, if_true, if_false, Bool.false_eq_true]
    exact bind_revSt _ fun r => by simp [revSt, List.filter_reverse]

def defStepR (i : Nat) (d : Def) (st : DSt) : Except Err (DSt × List Res) :=
  let gate : Option DSt :=
    if st.runnable then some st
    else
      let (valid, allp) := applySingle (d.cons.map (fun c => c i))
      if valid then some { st with runnable := allp } else none
  match gate with
  | none => pure (st, [])
  | some st =>
    match d.kind with
    | .simple sd =>
      match sd.run i with
      | some m => do
        let r ← mkSimpleRes d.id sd (i + 1) m
        pure (st, [r])
      | none => pure (st, [])
    | .seq s => do
      let st' ← seqStepR d.id s i st
      pure (st', [])

theorem revSt_runnable (st : DSt) (b : Bool) :
    ({ revSt st with runnable := b } : DSt) = revSt { st with runnable := b } := rfl

theorem defStepR_eq (i : Nat) (d : Def) (st : DSt) :
    defStepR i d (revSt st) = (defStep i d st).map (fun p => (revSt p.1, p.2)) := by
  unfold defStepR defStep
  rw [show (revSt st).runnable = st.runnable from rfl]
  -- the gate is shut, opens with `runnable := allp`, or was open; then both run the same search
  cases st.runnable
  case' false =>
    generalize applySingle (d.cons.map fun c => c i) = a
    obtain ⟨_ | _, allp⟩ := a
    · rfl
  all_goals
    simp only [Bool.false_eq_true, if_false, if_true, revSt_runnable]
    cases d.kind with
    | simple sd =>
      dsimp only
      cases sd.run i with
      | none => rfl
      | some m => dsimp only; cases mkSimpleRes d.id sd (i + 1) m <;> rfl
    | seq s =>
      dsimp only
      rw [seqStepR_eq]
      cases seqStep d.id s i _ <;> rfl

def defsStepR (i : Nat) : List Def → List DSt → Except Err (List DSt × List Res × List Nat)
  | d :: ds, st :: sts => do
    let (st', out) ← defStepR i d st
    let (sts', outs, ord) ← defsStepR i ds sts
    let newKey := if st'.everAdded && !st.everAdded then [d.id] else []
    pure (st' :: sts', out ++ outs, newKey ++ ord)
  | _, _ => pure ([], [], [])

theorem defsStepR_eq (i : Nat) : ∀ (defs : List Def) (sts : List DSt),
    defsStepR i defs (sts.map revSt)
      = (defsStep i defs sts).map (fun p => (p.1.map revSt, p.2.1, p.2.2))
  | [], _ | _ :: _, [] => by simp [defsStepR, defsStep]; rfl
  | d :: ds, st :: sts => by
    simp only [List.map_cons, defsStepR, defsStep, defStepR_eq, defsStepR_eq i ds]
    cases defStep i d st with
    | error e => rfl
    | ok p => cases defsStep i ds sts <;> rfl

/-- `linesLoop` with the two accumulators and the per-definition `seqRes` kept reversed. -/
def linesLoopRev (dec : Nat → Bool) (defs : List Def) :
    List DSt → List Res → List Nat → List Nat → Except Err LSt
  | sts, accS, accO, [] =>
    .ok { sts := sts.map revSt, simple := accS.reverse, order := accO.reverse }
  | sts, accS, accO, i :: is =>
    if !dec i then .error .unicodeDecode
    else
      match defsStepR i defs sts with
      | .error e => .error e
      | .ok (sts', outs, ord) =>
        linesLoopRev dec defs sts' (outs.reverseAux accS) (ord.reverseAux accO) is

theorem linesLoopRev_eq (dec : Nat → Bool) (defs : List Def) :
    ∀ (lines : List Nat) (sts : List DSt) (accS : List Res) (accO : List Nat),
      linesLoopRev dec defs (sts.map revSt) accS accO lines
        = linesLoop dec defs { sts := sts, simple := accS.reverse, order := accO.reverse } lines
  | [], sts, _, _ => by
    simp [linesLoopRev, linesLoop, Function.comp_def, pure, Except.pure]
  | i :: is, sts, accS, accO => by
    unfold linesLoopRev linesLoop lineStep
    cases dec i with
    | false => rfl
    | true =>
      rw [defsStepR_eq]
      cases defsStep i defs sts with
      | error e => rfl
      | ok v =>
        refine (linesLoopRev_eq dec defs is v.1 _ _).trans ?_
        -- `(outs.reverseAux accS).reverse = accS.reverse ++ outs`, likewise for `ord`
        simp only [List.reverseAux_eq, List.reverse_append, List.reverse_reverse]
        rfl

def linesLoopFast (dec : Nat → Bool) (defs : List Def) (ls : LSt) (lines : List Nat) :
    Except Err LSt :=
  linesLoopRev dec defs (ls.sts.map revSt) ls.simple.reverse ls.order.reverse lines

@[csimp] theorem linesLoop_eq_linesLoopFast : @linesLoop = @linesLoopFast := by
  funext dec defs ls lines
  simp [linesLoopFast, linesLoopRev_eq]

/-! `runTask`, `runTaskFrom`, … are compiled in `Task`, `Runner`, `Gzip`, which this file imports
  and which therefore cannot see the csimp lemma above: their object code calls the slow
  `linesLoop`.  The bodies below are the bodies of the original definitions, word for word;
  because they are compiled *after* the csimp lemma above (resp. the ones before them), the
  generated code calls the fast callee.  The equalities hold by `rfl` (induction for the
  recursive one). -/

def runTaskFast (t : TaskIn) : Except Err (List Res × Stats) := do
  let defs := dedupDefs t.defs []
  let ls0 : LSt := { sts := defs.map DSt.init }
  let ls ← linesLoop t.dec defs ls0 (List.range t.n)
  let finals ← eofAll t.n defs ls.sts
  let seqOut := ls.order.flatMap (fun id => (finals.lookup id).getD [])
  let all := ls.simple ++ seqOut
  pure (all, { lines := t.n, results := all.length })

@[csimp] theorem runTask_eq_fast : @runTask = @runTaskFast := rfl

def runTaskFromFast (p : Nat → SeqPersist) (t : TaskIn) : Except Err (List Res × Stats) := do
  let defs := dedupDefs t.defs []
  let ls0 : LSt := { sts := defs.map (DSt.initFrom p) }
  let ls ← linesLoop t.dec defs ls0 (List.range t.n)
  let finals ← eofAll t.n defs ls.sts
  let seqOut := ls.order.flatMap (fun id => (finals.lookup id).getD [])
  let all := ls.simple ++ seqOut
  pure (all, { lines := t.n, results := all.length })

@[csimp] theorem runTaskFrom_eq_fast : @runTaskFrom = @runTaskFromFast := rfl

def executeFast (j : FileJob) : Except Err (List Res × Stats) :=
  if j.empty then .ok ([], { lines := 0, results := 0 }) else runTask j.task

@[csimp] theorem execute_eq_fast : @execute = @executeFast := rfl

def executeAllFast : List FileJob → Except Err (List (List Res × Stats))
  | [] => .ok []
  | j :: js => do
    let r ← execute j
    let rs ← executeAllFast js
    pure (r :: rs)

@[csimp] theorem executeAll_eq_fast : @executeAll = @executeAllFast := by
  funext jobs
  induction jobs with
  | nil => rfl
  | cons j js ih => simp [executeAll, executeAllFast, ih]

def runAllFast (jobs : List FileJob) : Except Err (List (List Res) × RunStats) := do
  let outs ← executeAll jobs
  let n := jobs.length
  let jobsDone := if n = 0 then 0 else if n = 1 then 1 else n
  pure (outs.map (·.1),
        { searches := (jobs.map (·.nregs)).sum, searchesByJob := jobs.map (·.nregs),
          lines := (outs.map (·.2.lines)).sum, results := (outs.map (·.2.results)).sum,
          jobsCompleted := jobsDone, totalJobs := jobsDone })

@[csimp] theorem runAll_eq_fast : @runAll = @runAllFast := rfl

def runErrorsFast (jobs : List FileJob) : List Err :=
  jobs.filterMap fun j => match execute j with
    | .error e => some e
    | .ok _ => none

@[csimp] theorem runErrors_eq_fast : @runErrors = @runErrorsFast := rfl

def executeDiskFast (cfg : FileCfg) (d : DiskFile) : Except Err (List Res × Stats) :=
  if d.sizeZero then .ok ([], { lines := 0, results := 0 })
  else
    match startPos cfg d.content with
    | .error _ => .error .fileSearch
    | .ok p => runTask (cfg.mkTask d.content p)

@[csimp] theorem executeDisk_eq_fast : @executeDisk = @executeDiskFast := rfl

/-- `flushBatchesGo` with the buffer reversed (`bufR`) and its length (`n`). -/
def flushGoRev {α} (FLUSH MAXB : Nat) : List α → Nat → List α → List (List α)
  | bufR, _, [] => chunks MAXB bufR.reverse
  | bufR, n, r :: rs =>
    if n + 1 ≥ FLUSH then chunks MAXB (r :: bufR).reverse ++ flushGoRev FLUSH MAXB [] 0 rs
    else flushGoRev FLUSH MAXB (r :: bufR) (n + 1) rs

theorem flushGoRev_eq {α} (FLUSH MAXB : Nat) (rs : List α) :
    ∀ (bufR : List α) (n : Nat), n = bufR.length →
      flushGoRev FLUSH MAXB bufR n rs = flushBatchesGo FLUSH MAXB bufR.reverse rs := by
  induction rs with
  | nil => intro bufR n _; rfl
  | cons r rs ih =>
    intro bufR n hn
    subst hn
    unfold flushGoRev flushBatchesGo
    have h0 := ih [] 0 rfl
    have h1 := ih (r :: bufR) (bufR.length + 1) (by simp)
    simp only [List.reverse_nil] at h0
    simp only [List.reverse_cons] at h1 ⊢
    simp only [h0, h1, List.length_append, List.length_reverse, List.length_cons, List.length_nil]

def flushBatchesGoFast {α} (FLUSH MAXB : Nat) (buf rs : List α) : List (List α) :=
  flushGoRev FLUSH MAXB buf.reverse buf.length rs

@[csimp] theorem flushBatchesGo_eq_fast : @flushBatchesGo = @flushBatchesGoFast := by
  funext α FLUSH MAXB buf rs
  simp [flushBatchesGoFast, flushGoRev_eq]

def flushBatchesFast {α} (FLUSH MAXB : Nat) (rs : List α) : List (List α) :=
  flushGoRev FLUSH MAXB [] 0 rs

@[csimp] theorem flushBatches_eq_fast : @flushBatches = @flushBatchesFast := by
  funext α FLUSH MAXB rs
  simp [flushBatches, flushBatchesFast, flushGoRev_eq]

/-- `CState.init`, restated (compiled after the csimp lemma for `flushBatches`). -/
def cstateInitFast {α} (cap : Option Nat) (FLUSH MAXB : Nat) (n : Nat) (seq : Nat → List α) :
    CState α :=
  { cap := cap, ntasks := n,
    tasks := fun t => { remaining := flushBatches FLUSH MAXB (seq t), total := (seq t).length } }

@[csimp] theorem cstateInit_eq_fast : @CState.init = @cstateInitFast := rfl

/-! `firstFrom p a n` builds `List.range' a (n - a)` (all of it) and then searches it, so
  each call costs `n - a` even when the answer is the next line.  The loop below stops at
  the first hit. -/

def firstFromLoop (p : Nat → Bool) : Nat → Nat → Option Nat
  | 0, _ => none
  | k + 1, a => if p a then some a else firstFromLoop p k (a + 1)

theorem firstFromLoop_eq (p : Nat → Bool) (k : Nat) :
    ∀ a, firstFromLoop p k a = (List.range' a k).find? p := by
  induction k with
  | zero => intro a; rfl
  | succ k ih =>
    intro a
    rw [firstFromLoop, List.range'_succ, List.find?_cons, ih]
    cases p a <;> rfl

def firstFromFast (p : Nat → Bool) (a n : Nat) : Option Nat := firstFromLoop p (n - a) a

@[csimp] theorem firstFrom_eq_fast : @Spec.firstFrom = @firstFromFast := by
  funext p a n
  simp [Spec.firstFrom, firstFromFast, firstFromLoop_eq]

open Spec in
def sectionsWithEndFast (st bd en : Nat → Bool) (endEmpty : Bool) (n : Nat) : List Section :=
  (List.range n).filterMap fun i =>
    if st i then
      match firstFrom (fun j => st j || en j) (i + 1) n with
      | some j => if st j then none else some ⟨i, between bd (i + 1) j, some j⟩
      | none => if endEmpty then some ⟨i, between bd (i + 1) n, some n⟩ else none
    else none

@[csimp] theorem sectionsWithEnd_eq_fast : @Spec.sectionsWithEnd = @sectionsWithEndFast := rfl

open Spec in
def sectionsNoEndFast (st bd : Nat → Bool) (n : Nat) : List Section :=
  (List.range n).filterMap fun i =>
    if st i then
      let j := (firstFrom st (i + 1) n).getD n
      some ⟨i, between bd (i + 1) j, none⟩
    else none

@[csimp] theorem sectionsNoEnd_eq_fast : @Spec.sectionsNoEnd = @sectionsNoEndFast := rfl

open Spec in
def sectionsFast (s : SeqDef) (n : Nat) : List Section :=
  let bd : Nat → Bool := match s.body with | some b => hits b | none => fun _ => false
  match s.end_ with
  | some e => sectionsWithEnd (hits s.start) bd (hits e) e.emptyRes.isSome n
  | none => sectionsNoEnd (hits s.start) bd n

@[csimp] theorem sections_eq_fast : @Spec.sections = @sectionsFast := rfl

open Spec in
def activationFast (cons : List (Nat → COut)) (n : Nat) : Option Nat :=
  firstFrom (allPass cons) 0 n

@[csimp] theorem activation_eq_fast : @Spec.activation = @activationFast := rfl

#print axioms linesLoop_eq_linesLoopFast
#print axioms runTask_eq_fast
#print axioms runTaskFrom_eq_fast
#print axioms execute_eq_fast
#print axioms executeAll_eq_fast
#print axioms runAll_eq_fast
#print axioms runErrors_eq_fast
#print axioms executeDisk_eq_fast
#print axioms flushBatchesGo_eq_fast
#print axioms flushBatches_eq_fast
#print axioms cstateInit_eq_fast
#print axioms firstFrom_eq_fast
#print axioms sectionsWithEnd_eq_fast
#print axioms sectionsNoEnd_eq_fast
#print axioms sections_eq_fast
#print axioms activation_eq_fast

end Sk.Fast
