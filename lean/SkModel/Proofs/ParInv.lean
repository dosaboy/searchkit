/-
  SkModel.Proofs.ParInv — the step function of `SkModel.ParStore` as a relation, what a step
  does to the workers that do not take it, and the lock / pointer / disjointness invariant
  (which needs nothing about the local stores and holds for every block size, 0 included).
-/
import SkModel.ParStore
import SkModel.Proofs.Trans

namespace Sk.Par

@[simp] theorem updW_same (f : Nat → PW) (w : Nat) (v : PW) : updW f w v w = v := by simp [updW]
@[simp] theorem updW_other (f : Nat → PW) {w x : Nat} (v : PW) (h : x ≠ w) :
    updW f w v x = f x := by simp [updW, h]

theorem updW_cases {P : Nat → PW → Prop} {ws : Nat → PW} {w : Nat} {p' : PW} (hw : P w p')
    (h : ∀ x, P x (ws x)) (x : Nat) : P x (updW ws w p' x) := by
  by_cases hx : x = w
  · subst hx; rw [updW_same]; exact hw
  · rw [updW_other _ _ hx]; exact h x

inductive Step (s : PState) : PLbl → PState → Prop
  | local_ (w : Nat) (ns : Ns) (v : Option Val) (rest : List (Ns × Option Val)) (st' : Store)
      (i : Option Nat)
      (hpc : (s.ws w).pc = .run) (hready : (s.ws w).localReady = true)
      (hops : (s.ws w).ops = (ns, v) :: rest)
      (hadd : (s.ws w).st.addTo (s.ws w).sup ns v = .ok (st', i)) :
      Step s (.local_ w)
        { s with ws := updW s.ws w { s.ws w with ops := rest, st := st', rets := (s.ws w).rets ++ [i] } }
  | acquireSync (w : Nat) (hlock : s.lock = none) (hpc : (s.ws w).pc = .run)
      (hops : (s.ws w).ops = []) :
      Step s (.acquire w) { s with lock := some w, ws := updW s.ws w { s.ws w with pc := .sync } }
  | acquireBlk (w : Nat) (hlock : s.lock = none) (hpc : (s.ws w).pc = .run)
      (hops : (s.ws w).ops ≠ []) (hnr : (s.ws w).localReady = false) :
      Step s (.acquire w) { s with lock := some w, ws := updW s.ws w { s.ws w with pc := .locked } }
  | read1 (w : Nat) (hlock : s.lock = some w) (hpc : (s.ws w).pc = .locked) :
      Step s (.readPtr w s.ptr) { s with ws := updW s.ws w { s.ws w with pc := .read1, r1 := s.ptr } }
  | read2 (w : Nat) (hlock : s.lock = some w) (hpc : (s.ws w).pc = .read1) :
      Step s (.readPtr w s.ptr) { s with ws := updW s.ws w { s.ws w with pc := .read2, r2 := s.ptr } }
  | writePtr (w : Nat) (hlock : s.lock = some w) (hpc : (s.ws w).pc = .read2) :
      Step s (.writePtr w ((s.ws w).r2 + s.B))
        { s with ptr := (s.ws w).r2 + s.B,
                 ws := updW s.ws w { s.ws w with pc := .wrote, grants := (s.ws w).grants ++ [(s.ws w).r1] } }
  | releaseBlk (w : Nat) (hlock : s.lock = some w) (hpc : (s.ws w).pc = .wrote) :
      Step s (.release w) { s with lock := none, ws := updW s.ws w { s.ws w with pc := .run } }
  | releaseSync (w : Nat) (hlock : s.lock = some w) (hpc : (s.ws w).pc = .sync) :
      Step s (.release w) { s with lock := none }
  | syncStart (w : Nat) (hpc : (s.ws w).pc = .run) (hops : (s.ws w).ops = []) :
      Step s (.syncStart w) { s with ws := updW s.ws w { s.ws w with pc := .sync } }
  | syncData (w : Nat) (idx : Nat) (v : Val) (hpc : (s.ws w).pc = .sync)
      (hmem : (idx, v) ∈ (s.ws w).st.data) :
      Step s (.syncData w idx v)
        { s with sdata := (idx, v) :: s.sdata,
                 ws := updW s.ws w { s.ws w with synced := (idx, v) :: (s.ws w).synced } }
  | syncRevRead (w : Nat) (ns : Ns) (v : Val) (hpc : (s.ws w).pc = .sync) :
      Step s (.syncRevRead w ns v ((s.srev ns).lookup v).isSome) s
  | syncRevWrite (w : Nat) (ns : Ns) (v : Val) (idx : Nat) (hpc : (s.ws w).pc = .sync)
      (hmem : (v, idx) ∈ (s.ws w).st.rev ns) :
      Step s (.syncRevWrite w ns v idx) { s with srev := setRevS s.srev ns ((v, idx) :: s.srev ns) }
  | syncDone (w : Nat) (hpc : (s.ws w).pc = .sync) (hlock : s.lock ≠ some w)
      (hall : ∀ it ∈ (s.ws w).st.data, it ∈ (s.ws w).synced) :
      Step s (.syncDone w) { s with ws := updW s.ws w { s.ws w with pc := .done } }

theorem step_of_pstep {s : PState} {l : PLbl} {s' : PState} (h : pstep s l = some s') :
    Step s l s' := by
  cases l <;> simp only [pstep, Option.ite_none_right_eq_some, Option.some.injEq] at h
  case local_ w =>
    obtain ⟨⟨hpc, hr⟩, h⟩ := h
    split at h
    · rename_i ns v rest hops
      split at h
      · cases h; exact .local_ w ns v rest _ _ hpc hr hops ‹_›
      · cases h
    · cases h
  case acquire w =>
    obtain ⟨⟨hl, hpc⟩, h⟩ := h
    split at h
    · cases h; exact .acquireSync w hl hpc ‹_›
    · rename_i hops
      simp only [Option.ite_none_right_eq_some, Option.some.injEq] at h
      obtain ⟨hnr, rfl⟩ := h
      exact .acquireBlk w hl hpc (by simp [hops]) (by simpa using hnr)
  case readPtr w seen =>
    obtain ⟨⟨hl, rfl⟩, h⟩ := h
    split at h
    · cases h; exact .read1 w hl ‹_›
    · simp only [Option.ite_none_right_eq_some, Option.some.injEq] at h
      obtain ⟨hpc, rfl⟩ := h
      exact .read2 w hl hpc
  case writePtr w val =>
    obtain ⟨⟨hl, hpc, rfl⟩, rfl⟩ := h
    exact .writePtr w hl hpc
  case release w =>
    obtain ⟨hl, h⟩ := h
    split at h
    · cases h; exact .releaseBlk w hl ‹_›
    · simp only [Option.ite_none_right_eq_some, Option.some.injEq] at h
      obtain ⟨hpc, rfl⟩ := h
      exact .releaseSync w hl hpc
  case syncStart w =>
    obtain ⟨⟨hpc, hops⟩, rfl⟩ := h
    exact .syncStart w hpc hops
  case syncData w idx v =>
    obtain ⟨⟨hpc, hm⟩, rfl⟩ := h
    exact .syncData w idx v hpc (by simpa using hm)
  case syncRevRead w ns v seen =>
    obtain ⟨⟨hpc, rfl⟩, rfl⟩ := h
    exact .syncRevRead w ns v hpc
  case syncRevWrite w ns v idx =>
    obtain ⟨⟨hpc, hm⟩, rfl⟩ := h
    exact .syncRevWrite w ns v idx hpc (by simpa using hm)
  case syncDone w =>
    obtain ⟨⟨hpc, hl, hall⟩, rfl⟩ := h
    exact .syncDone w hpc hl (by simpa [List.all_eq_true] using hall)

theorem prun_eq_run (s : PState) (ls : List PLbl) : prun s ls = LTS.run pstep s ls := by
  induction ls generalizing s with
  | nil => rfl
  | cons l ls ih => cases h : pstep s l <;> simp [prun, LTS.run_cons, h, ih]

def actor : PLbl → Nat
  | .local_ w => w
  | .acquire w => w
  | .readPtr w _ => w
  | .writePtr w _ => w
  | .release w => w
  | .syncStart w => w
  | .syncData w _ _ => w
  | .syncRevRead w _ _ _ => w
  | .syncRevWrite w _ _ _ => w
  | .syncDone w => w

theorem Step.others {s s' : PState} {l : PLbl} (hs : Step s l s') {x : Nat} (hx : x ≠ actor l) :
    s'.ws x = s.ws x ∧ (s'.lock = some x ↔ s.lock = some x) ∧ (s.lock = some x → s'.ptr = s.ptr) := by
  have hx' : actor l ≠ x := Ne.symm hx
  cases hs with
  | acquireSync w hlock | acquireBlk w hlock | releaseBlk w hlock =>
    exact ⟨updW_other _ _ hx, by simpa [hlock, actor] using hx', fun _ => rfl⟩
  | releaseSync w hlock => exact ⟨rfl, by simpa [hlock, actor] using hx', fun _ => rfl⟩
  | writePtr w hlock =>
    exact ⟨updW_other _ _ hx, Iff.rfl,
      fun h => absurd (hlock.symm.trans h) (by simpa [actor] using hx')⟩
  | syncRevRead | syncRevWrite => exact ⟨rfl, Iff.rfl, fun _ => rfl⟩
  | _ => exact ⟨updW_other _ _ hx, Iff.rfl, fun _ => rfl⟩

/-- inside `preallocate`, between `acquire` and `release` -/
def crit : PPc → Bool
  | .locked | .read1 | .read2 | .wrote => true
  | _ => false

theorem crit_iff (pc : PPc) :
    crit pc = true ↔ pc = .locked ∨ pc = .read1 ∨ pc = .read2 ∨ pc = .wrote := by
  cases pc <;> simp [crit]

structure Inv1 (B : Nat) (s : PState) : Prop where
  hB : s.B = B
  below : ∀ w g, g ∈ (s.ws w).grants → g + B ≤ s.ptr
  disj : ∀ (w1 w2 i1 i2 a b : Nat), (s.ws w1).grants[i1]? = some a → (s.ws w2).grants[i2]? = some b →
      (w1 = w2 → i1 ≠ i2) → a + B ≤ b ∨ b + B ≤ a
  holds : ∀ w, crit (s.ws w).pc = true → s.lock = some w
  held : ∀ h, s.lock = some h → crit (s.ws h).pc = true ∨ (s.ws h).pc = .sync
  r1ok : ∀ w, (s.ws w).pc = .read1 ∨ (s.ws w).pc = .read2 → (s.ws w).r1 = s.ptr
  r2ok : ∀ w, (s.ws w).pc = .read2 → (s.ws w).r2 = s.ptr

/-- The last four clauses of `Inv1`, read as the assertion attached to each point of worker
    `w`'s program: what it may rely on there about the lock and the pointer. -/
def LockAt (s : PState) (w : Nat) : Prop :=
  match (s.ws w).pc with
  | .run | .done => s.lock ≠ some w
  | .locked | .wrote => s.lock = some w
  | .read1 => s.lock = some w ∧ (s.ws w).r1 = s.ptr
  | .read2 => s.lock = some w ∧ (s.ws w).r1 = s.ptr ∧ (s.ws w).r2 = s.ptr
  | .sync => True

theorem lockAt_iff (s : PState) (w : Nat) : LockAt s w ↔
    (crit (s.ws w).pc = true → s.lock = some w) ∧
    (s.lock = some w → crit (s.ws w).pc = true ∨ (s.ws w).pc = .sync) ∧
    ((s.ws w).pc = .read1 ∨ (s.ws w).pc = .read2 → (s.ws w).r1 = s.ptr) ∧
    ((s.ws w).pc = .read2 → (s.ws w).r2 = s.ptr) := by
  unfold LockAt
  cases (s.ws w).pc <;> simp [crit]

theorem Inv1.lockAt {B : Nat} {s : PState} (h : Inv1 B s) (w : Nat) : LockAt s w :=
  (lockAt_iff s w).2 ⟨h.holds w, h.held w, h.r1ok w, h.r2ok w⟩

theorem Inv1.of_lockAt {B : Nat} {s : PState} (hB : s.B = B)
    (below : ∀ w g, g ∈ (s.ws w).grants → g + B ≤ s.ptr)
    (disj : ∀ (w1 w2 i1 i2 a b : Nat), (s.ws w1).grants[i1]? = some a →
      (s.ws w2).grants[i2]? = some b → (w1 = w2 → i1 ≠ i2) → a + B ≤ b ∨ b + B ≤ a)
    (hat : ∀ w, LockAt s w) : Inv1 B s :=
  have hc := fun w => (lockAt_iff s w).1 (hat w)
  ⟨hB, below, disj, fun w => (hc w).1, fun w => (hc w).2.1, fun w => (hc w).2.2.1,
    fun w => (hc w).2.2.2⟩

theorem Inv1.init (B : Nat) (progs : Nat → List (Ns × Option Val)) : Inv1 B (PState.init B progs) :=
  .of_lockAt rfl (fun w g hg => by simp [PState.init] at hg)
    (fun w1 w2 i1 i2 a b h1 => by simp [PState.init] at h1) (fun w => by simp [LockAt, PState.init])

theorem Inv1.frame {B : Nat} {s s' : PState} (h : Inv1 B s) (hptr : s'.ptr = s.ptr)
    (hg : ∀ x, (s'.ws x).grants = (s.ws x).grants) (hB : s'.B = s.B) (hat : ∀ w, LockAt s' w) :
    Inv1 B s' := by
  refine .of_lockAt (hB.trans h.hB) (fun w g => ?_) (fun w1 w2 i1 i2 a b => ?_) hat
  · rw [hg, hptr]; exact h.below w g
  · rw [hg, hg]; exact h.disj w1 w2 i1 i2 a b

/-- the guard of a step and the actor's assertion before it give its assertion after it -/
theorem Step.lockAt_actor {s s' : PState} {l : PLbl} (hs : Step s l s')
    (h : LockAt s (actor l)) : LockAt s' (actor l) := by
  cases hs <;> simp_all [LockAt, actor]

theorem lockAt_step {s s' : PState} {l : PLbl} (hs : Step s l s') (h : ∀ x, LockAt s x) (x : Nat) :
    LockAt s' x := by
  by_cases hx : x = actor l
  · subst hx; exact hs.lockAt_actor (h _)
  · -- the assertion of another worker speaks of the pointer only while it holds the lock
    obtain ⟨hw, hl, hp⟩ := hs.others hx
    have hat := h x
    unfold LockAt at hat ⊢
    rw [hw]
    revert hat
    cases (s.ws x).pc <;> intro hat <;> simp_all

theorem getElem?_grants_append {ws : Nat → PW} {w x i a c : Nat} {p' : PW}
    (hp : p'.grants = (ws w).grants ++ [a]) (h : (updW ws w p' x).grants[i]? = some c) :
    (ws x).grants[i]? = some c ∨ (x = w ∧ i = (ws w).grants.length ∧ c = a) := by
  by_cases hx : x = w
  · subst hx
    rw [updW_same, hp, List.getElem?_append] at h
    split at h
    · exact .inl h
    · rw [List.getElem?_singleton] at h
      split at h
      · exact .inr ⟨rfl, by omega, (Option.some.inj h).symm⟩
      · cases h
  · rw [updW_other _ _ hx] at h; exact .inl h

theorem inv1_step {B : Nat} {s : PState} {l : PLbl} {s' : PState} (h : Inv1 B s) (hs : Step s l s') :
    Inv1 B s' := by
  have hat := lockAt_step hs h.lockAt
  cases hs with
  | writePtr w hlock hpc =>
    -- the new block starts at the old pointer, above every block granted before
    have e1 := h.r1ok w (.inr hpc)
    have e2 := h.r2ok w hpc
    have old : ∀ {x j c : Nat}, (s.ws x).grants[j]? = some c → c + B ≤ (s.ws w).r1 := fun hc => by
      have := h.below _ _ (List.mem_of_getElem? hc); omega
    refine .of_lockAt h.hB (fun x g hg => ?_) (fun w1 w2 i1 i2 a b h1 h2 hne => ?_) hat
    · show g + B ≤ (s.ws w).r2 + s.B
      obtain ⟨i, hi⟩ := List.getElem?_of_mem hg
      have eB := h.hB
      rcases getElem?_grants_append rfl hi with hi | ⟨-, -, rfl⟩
      · have := old hi; omega
      · omega
    · rcases getElem?_grants_append rfl h1 with g1 | ⟨rfl, rfl, rfl⟩ <;>
        rcases getElem?_grants_append rfl h2 with g2 | ⟨rfl, rfl, rfl⟩
      · exact h.disj _ _ _ _ _ _ g1 g2 hne
      · exact .inl (old g1)
      · exact .inr (old g2)
      · exact absurd rfl (hne rfl)
  | syncRevRead | syncRevWrite | releaseSync => exact .of_lockAt h.hB h.below h.disj hat
  | _ => exact h.frame rfl (updW_cases (P := fun x p => p.grants = (s.ws x).grants) rfl fun _ => rfl) rfl hat

end Sk.Par
