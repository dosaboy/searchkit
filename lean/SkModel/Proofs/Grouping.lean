/-
  SkModel.Proofs.Grouping — insertion-ordered dictionaries of lists as association lists.
  `gFold` maintains one invariant, `Groups`: the dictionary is the grouping of what was filed
  (distinct keys, namely those that occur; the entry of `k` is the sublist of elements with key
  `k`; nothing lost or duplicated).  Ahead of `Groups` stand the general facts on association lists
  (`List.lookup`, `Nodup` of the keys: `eq_of_map_eq`, `nodup_concat`, `lookup_of_mem`,
  `mem_of_lookup`, `any_key_iff`, ..) that StoreInv, C06, C15, C02Ids, C07Global and Persist
  (`lookup_map_snd`) use as well; all of it is in namespace `Sk.Coll14`.
-/

namespace Sk.Coll14

theorem eq_of_map_eq {α β} {f : α → β} {l : List α} (h : (l.map f).Nodup) {a b : α}
    (ha : a ∈ l) (hb : b ∈ l) (e : f a = f b) : a = b := by
  rw [List.Nodup, List.pairwise_map] at h
  exact List.Pairwise.forall_of_forall_of_flip (R := fun a b => f a = f b → a = b)
    (fun _ _ _ => rfl) (h.imp fun hne e => absurd e hne) (h.imp fun hne e => absurd e.symm hne)
    ha hb e

theorem nodup_concat {α} {l : List α} {a : α} : (l ++ [a]).Nodup ↔ a ∉ l ∧ l.Nodup :=
  (List.perm_append_singleton a l).nodup_iff.trans List.nodup_cons

theorem nodup_map_concat {α β} {f : α → β} {l : List α} {a : α} (h : (l.map f).Nodup)
    (ha : f a ∉ l.map f) : ((l ++ [a]).map f).Nodup := by
  rw [List.map_append]
  exact nodup_concat.2 ⟨ha, h⟩

theorem mem_foldl_iff {α σ β : Type} {op : σ → α → σ} {obs : σ → List β} {C : α → β → Prop}
    (h : ∀ s a x, x ∈ obs (op s a) ↔ x ∈ obs s ∨ C a x) (l : List α) (s : σ) (x : β) :
    x ∈ obs (l.foldl op s) ↔ x ∈ obs s ∨ ∃ a ∈ l, C a x := by
  induction l generalizing s with
  | nil => simp
  | cons a l ih => simp [ih, h, or_assoc]

section Generic

-- `gFold_nil`, `gFold_cons` and `Groups.nil` hold by computation, without `LawfulBEq κ`
set_option linter.unusedSectionVars false

variable {κ : Type} {α : Type} [BEq κ] [LawfulBEq κ]

/-- `d.setdefault(k, []).append(r)` on an insertion-ordered dict -/
def gAdd (g : List (κ × List α)) (k : κ) (r : α) : List (κ × List α) :=
  if g.any (fun p => p.1 == k) then g.map (fun p => if p.1 == k then (p.1, p.2 ++ [r]) else p)
  else g ++ [(k, [r])]

def gFold (key : α → κ) (g : List (κ × List α)) (xs : List α) : List (κ × List α) :=
  xs.foldl (fun g r => gAdd g (key r) r) g

@[simp] theorem gFold_nil (key : α → κ) (g : List (κ × List α)) : gFold key g [] = g := rfl

@[simp] theorem gFold_cons (key : α → κ) (g : List (κ × List α)) (x : α) (xs : List α) :
    gFold key g (x :: xs) = gFold key (gAdd g (key x) x) xs := rfl

theorem any_key_iff {β : Type} (g : List (κ × β)) (k : κ) :
    g.any (fun p => p.1 == k) = true ↔ k ∈ g.map (·.1) := by
  simp [List.any_eq_true]

theorem lookup_none_iff {β : Type} (g : List (κ × β)) (k : κ) :
    g.lookup k = none ↔ k ∉ g.map (·.1) := by
  rw [List.lookup_eq_none_iff]
  constructor
  · intro h hk
    obtain ⟨p, hp, rfl⟩ := List.mem_map.1 hk
    simpa using h p hp
  · exact fun h p hp => bne_iff_ne.2 fun e => h (e ▸ List.mem_map_of_mem hp)

theorem lookup_isSome_of_mem {β : Type} (g : List (κ × β)) (k : κ)
    (h : k ∈ g.map (·.1)) : ∃ v, g.lookup k = some v :=
  Option.ne_none_iff_exists'.1 (fun e => (lookup_none_iff g k).1 e h)

theorem mem_of_lookup {β : Type} {g : List (κ × β)} {k : κ} {v : β}
    (h : g.lookup k = some v) : (k, v) ∈ g := by
  obtain ⟨l₁, l₂, rfl, _⟩ := List.lookup_eq_some_iff.1 h
  simp

theorem lookup_of_mem {β : Type} {g : List (κ × β)} {k : κ} {v : β}
    (hn : (g.map (·.1)).Nodup) (h : (k, v) ∈ g) : g.lookup k = some v := by
  obtain ⟨v', hv'⟩ := lookup_isSome_of_mem g k (List.mem_map_of_mem h)
  cases eq_of_map_eq hn h (mem_of_lookup hv') rfl
  exact hv'

theorem lookup_eq (g : List (κ × List α)) (k : κ) :
    g.lookup k = if k ∈ g.map (·.1) then some ((g.lookup k).getD []) else none := by
  split
  · next h => obtain ⟨v, hv⟩ := lookup_isSome_of_mem g k h; rw [hv]; rfl
  · next h => exact (lookup_none_iff g k).2 h

theorem lookup_map_snd {β γ : Type} (g : List (κ × β)) (h : κ → β → γ) (k : κ) :
    (g.map (fun p => (p.1, h p.1 p.2))).lookup k = (g.lookup k).map (h k) := by
  induction g with
  | nil => rfl
  | cons p g ih =>
    obtain ⟨a, b⟩ := p
    rw [List.map_cons, List.lookup_cons, List.lookup_cons]
    cases hk : k == a
    · exact ih
    · rw [eq_of_beq hk]; rfl

theorem map_upd_of_not_mem {β : Type} (g : List (κ × β)) (k : κ) (f : β → β)
    (h : k ∉ g.map (·.1)) : g.map (fun p => (p.1, if p.1 == k then f p.2 else p.2)) = g := by
  refine (List.map_congr_left fun p hp => ?_).trans (List.map_id g)
  rw [if_neg fun e => h ((eq_of_beq e : p.1 = k) ▸ List.mem_map_of_mem hp)]
  rfl

theorem gAdd_of_mem (g : List (κ × List α)) (k : κ) (r : α) (h : k ∈ g.map (·.1)) :
    gAdd g k r = g.map (fun p => (p.1, if p.1 == k then p.2 ++ [r] else p.2)) := by
  rw [gAdd, if_pos ((any_key_iff g k).2 h)]
  exact List.map_congr_left fun p _ => by split <;> rfl

theorem gAdd_of_not_mem (g : List (κ × List α)) (k : κ) (r : α) (h : k ∉ g.map (·.1)) :
    gAdd g k r = g ++ [(k, [r])] :=
  if_neg fun h' => h ((any_key_iff g k).1 h')

theorem keys_gAdd (g : List (κ × List α)) (k : κ) (r : α) :
    (gAdd g k r).map (·.1) = if k ∈ g.map (·.1) then g.map (·.1) else g.map (·.1) ++ [k] := by
  split
  · rename_i h
    rw [gAdd_of_mem g k r h, List.map_map]
    rfl
  · rename_i h
    simp [gAdd_of_not_mem g k r h]

theorem nodup_gAdd (g : List (κ × List α)) (k : κ) (r : α) (h : (g.map (·.1)).Nodup) :
    ((gAdd g k r).map (·.1)).Nodup := by
  rw [keys_gAdd]
  split
  · exact h
  · next hk => exact nodup_concat.2 ⟨hk, h⟩

theorem mem_keys_gAdd (g : List (κ × List α)) (k k' : κ) (r : α) :
    k' ∈ (gAdd g k r).map (·.1) ↔ k' ∈ g.map (·.1) ∨ k' = k := by
  rw [keys_gAdd]
  split
  · rename_i h
    exact ⟨Or.inl, fun h' => h'.elim id (· ▸ h)⟩
  · simp

theorem lookup_gAdd (g : List (κ × List α)) (k k' : κ) (r : α) :
    (gAdd g k r).lookup k'
      = if k' == k then some ((g.lookup k).getD [] ++ [r]) else g.lookup k' := by
  by_cases h : k ∈ g.map (·.1)
  · rw [gAdd_of_mem g k r h, lookup_map_snd g (fun a v => if a == k then v ++ [r] else v)]
    split
    · rename_i hk
      obtain ⟨v, hv⟩ := lookup_isSome_of_mem g k h
      rw [eq_of_beq hk, hv]
      rfl
    · simp
  · rw [gAdd_of_not_mem g k r h, List.lookup_append, List.lookup_cons, (lookup_none_iff g k).2 h]
    cases hk : k' == k
    · simp
    · rw [eq_of_beq hk, (lookup_none_iff g k).2 h]; rfl

theorem getD_lookup_gAdd (g : List (κ × List α)) (k k' : κ) (r : α) :
    ((gAdd g k r).lookup k').getD [] = (g.lookup k').getD [] ++ if k == k' then [r] else [] := by
  rw [lookup_gAdd, Bool.beq_comm (a := k)]
  split
  · rename_i h; rw [eq_of_beq h]; rfl
  · exact (List.append_nil _).symm

theorem perm_gAdd (g : List (κ × List α)) (k : κ) (r : α) (hn : (g.map (·.1)).Nodup) :
    ((gAdd g k r).flatMap (·.2)).Perm (g.flatMap (·.2) ++ [r]) := by
  by_cases h : k ∈ g.map (·.1)
  · -- split `g` at its one entry for `k`; the update leaves both sides alone
    rw [gAdd_of_mem g k r h]
    obtain ⟨p, hp, rfl⟩ := List.mem_map.1 h
    obtain ⟨l₁, l₂, rfl⟩ := List.append_of_mem hp
    simp only [List.map_append, List.map_cons, List.nodup_append, List.nodup_cons] at hn
    rw [List.map_append, List.map_cons,
      map_upd_of_not_mem l₁ p.1 (· ++ [r]) fun hk => hn.2.2 _ hk _ List.mem_cons_self rfl,
      map_upd_of_not_mem l₂ p.1 (· ++ [r]) hn.2.1.1]
    simp only [beq_self_eq_true, if_true, List.flatMap_append, List.flatMap_cons,
      List.append_assoc]
    exact (List.perm_append_comm.append_left _).append_left _
  · simp [gAdd_of_not_mem g k r h]

theorem mem_keys_gFold (key : α → κ) (g : List (κ × List α)) (xs : List α) (k : κ) :
    k ∈ (gFold key g xs).map (·.1) ↔ k ∈ g.map (·.1) ∨ ∃ x ∈ xs, key x = k :=
  mem_foldl_iff (obs := fun g => g.map (·.1)) (C := fun x k => key x = k)
    (fun g x k => by rw [mem_keys_gAdd, @eq_comm _ k]) xs g k

/-- `g` is the grouping of `xs` by `key`, in some order of the keys -/
structure Groups (key : α → κ) (g : List (κ × List α)) (xs : List α) : Prop where
  nodup : (g.map (·.1)).Nodup
  mem_keys : ∀ k, k ∈ g.map (·.1) ↔ ∃ x ∈ xs, key x = k
  lookup : ∀ k, (g.lookup k).getD [] = xs.filter (fun x => key x == k)
  perm : (g.flatMap (·.2)).Perm xs

theorem Groups.nil (key : α → κ) : Groups key [] [] :=
  ⟨List.nodup_nil, by simp, fun _ => rfl, .nil⟩

theorem Groups.add {key : α → κ} {g : List (κ × List α)} {xs : List α} (h : Groups key g xs)
    (x : α) : Groups key (gAdd g (key x) x) (xs ++ [x]) where
  nodup := nodup_gAdd g _ x h.nodup
  mem_keys k := by
    rw [mem_keys_gAdd, h.mem_keys]
    simp [or_and_right, exists_or, eq_comm]
  lookup k := by
    rw [getD_lookup_gAdd, List.filter_append, ← h.lookup]
    simp only [List.filter_cons, List.filter_nil]
  perm := (perm_gAdd g _ x h.nodup).trans (h.perm.append_right _)

theorem Groups.fold {key : α → κ} {g : List (κ × List α)} {ys : List α} (h : Groups key g ys)
    (xs : List α) : Groups key (gFold key g xs) (ys ++ xs) := by
  induction xs generalizing g ys with
  | nil => simpa using h
  | cons x xs ih => simpa using ih (h.add x)

theorem groups_gFold (key : α → κ) (xs : List α) : Groups key (gFold key [] xs) xs := by
  simpa using (Groups.nil key).fold xs

theorem Groups.entry {key : α → κ} {g : List (κ × List α)} {xs : List α} (h : Groups key g xs)
    {k : κ} {rs : List α} (hm : (k, rs) ∈ g) : rs = xs.filter (fun x => key x == k) := by
  rw [← h.lookup, lookup_of_mem h.nodup hm]
  rfl

theorem Groups.eq_map {key : α → κ} {g : List (κ × List α)} {xs : List α} (h : Groups key g xs) :
    g = (g.map (·.1)).map fun k => (k, xs.filter (fun x => key x == k)) := by
  rw [List.map_map]
  exact (List.map_id g).symm.trans (List.map_congr_left fun p hp => Prod.ext rfl (h.entry hp))

theorem Groups.keyed {key : α → κ} {g : List (κ × List α)} {xs : List α} (h : Groups key g xs) :
    ∀ p ∈ g, ∀ x ∈ p.2, key x = p.1 := by
  intro p hp x hx
  rw [h.entry (k := p.1) (rs := p.2) hp] at hx
  exact eq_of_beq (List.mem_filter.1 hx).2

theorem Groups.nonempty {key : α → κ} {g : List (κ × List α)} {xs : List α}
    (h : Groups key g xs) : ∀ p ∈ g, p.2 ≠ [] := by
  intro p hp
  obtain ⟨x, hx, hk⟩ := (h.mem_keys p.1).1 (List.mem_map_of_mem hp)
  rw [h.entry (k := p.1) (rs := p.2) hp]
  exact List.ne_nil_of_mem (List.mem_filter.2 ⟨hx, beq_iff_eq.2 hk⟩)

end Generic

end Sk.Coll14
