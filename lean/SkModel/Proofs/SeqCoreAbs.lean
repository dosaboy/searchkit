/-
  SkModel.Proofs.SeqCoreAbs — the pure half of C03: a small left-to-right machine over
  line classes (`closed` sections and the open one, `opn`) computes exactly the declarative
  `Spec.sectionsWithEnd` / `Spec.sectionsNoEnd`.  No reference to `seqStep` here.

  Both kinds of sequence are one `Reading`: without an end, the end pattern never matches
  and `keep`, `endEmpty` are set.
-/
import SkModel.Spec.Sequence

namespace Sk

open Spec

/-- abstract state: the complete sections so far and the open one (start line, bodies) -/
structure ASt where
  closed : List Spec.Section
  opn : Option (Nat × List Nat)

theorem firstFrom_step (p : Nat → Bool) {a n : Nat} (h : a < n) :
    firstFrom p a n = if p a then some a else firstFrom p (a + 1) n := by
  unfold firstFrom
  rw [show n - a = (n - (a + 1)) + 1 by omega, List.range'_succ, List.find?_cons]
  cases p a <;> rfl

theorem firstFrom_end (p : Nat → Bool) (n : Nat) : firstFrom p n n = none := by
  simp [firstFrom]

theorem firstFrom_some {p : Nat → Bool} {a n j : Nat} (h : firstFrom p a n = some j) :
    a ≤ j ∧ j < n ∧ p j = true ∧ ∀ i, a ≤ i → i < j → p i = false := by
  obtain ⟨hp, hm, hb⟩ := List.find?_range'_eq_some.mp h
  rw [List.mem_range'_1] at hm
  exact ⟨hm.1, by omega, hp, fun i h1 h2 => by simpa using hb i h1 h2⟩

theorem firstFrom_none {p : Nat → Bool} {a n : Nat} (h : firstFrom p a n = none) :
    ∀ i, a ≤ i → i < n → p i = false := fun i h1 h2 => by
  simpa using List.find?_range'_eq_none.mp h i h1 (by omega)

theorem between_self (p : Nat → Bool) (a : Nat) : between p a a = [] := by
  simp [between]

theorem between_step (p : Nat → Bool) {a j : Nat} (h : a < j) :
    between p a j = (if p a then [a] else []) ++ between p (a + 1) j := by
  unfold between
  rw [show j - a = (j - (a + 1)) + 1 by omega, List.range'_succ, List.filter_cons]
  split <;> rfl

/-- How the lines are read as sections. -/
structure Reading where
  sp : Nat → Bool          -- which lines match the start,
  bp : Nat → Bool          -- the body
  ep : Nat → Bool          -- and the end pattern
  keep : Bool              -- a start line met inside a section completes it (no end is defined)
                           -- instead of discarding it
  endEmpty : Bool          -- end of file completes the open section
  mark : Nat → Option Nat  -- the closing line as `Section.end_` records it: `some` with an end,
                           -- `fun _ => none` without
  n : Nat                  -- the number of lines

variable (R : Reading)

/-- how the section opened on line `i0`, with bodies `bs` so far, ends when the file is
    read on from line `a` -/
def closeFrom (i0 : Nat) (bs : List Nat) (a : Nat) : Option Spec.Section :=
  match firstFrom (fun j => R.sp j || R.ep j) a R.n with
  | some j => if R.sp j then (if R.keep then some ⟨i0, bs ++ between R.bp a j, R.mark j⟩ else none)
              else some ⟨i0, bs ++ between R.bp a j, R.mark j⟩
  | none => if R.endEmpty then some ⟨i0, bs ++ between R.bp a R.n, R.mark R.n⟩ else none

def secAt (i : Nat) : Option Spec.Section :=
  if R.sp i then closeFrom R i [] (i + 1) else none

theorem sectionsWithEnd_eq (sp bp ep : Nat → Bool) (endEmpty : Bool) (n : Nat) :
    sectionsWithEnd sp bp ep endEmpty n =
      (List.range n).filterMap (secAt ⟨sp, bp, ep, false, endEmpty, some, n⟩) := rfl

theorem sectionsNoEnd_eq (sp bp : Nat → Bool) (n : Nat) :
    sectionsNoEnd sp bp n =
      (List.range n).filterMap (secAt ⟨sp, bp, fun _ => false, true, true, fun _ => none, n⟩) := by
  unfold sectionsNoEnd
  congr 1
  funext i
  simp only [secAt, closeFrom, Bool.or_false, List.nil_append]
  cases firstFrom sp (i + 1) n <;> simp

def absStep (A : ASt) (i : Nat) : ASt :=
  match A.opn with
  | some (a, bs) =>
    if R.sp i then ⟨if R.keep then A.closed ++ [⟨a, bs, R.mark i⟩] else A.closed, some (i, [])⟩
    else if R.ep i then ⟨A.closed ++ [⟨a, bs, R.mark i⟩], none⟩
    else ⟨A.closed, some (a, bs ++ if R.bp i then [i] else [])⟩
  | none => if R.sp i then ⟨A.closed, some (i, [])⟩ else A

def absFin (A : ASt) : List Spec.Section :=
  match A.opn with
  | some (a, bs) => if R.endEmpty then A.closed ++ [⟨a, bs, R.mark R.n⟩] else A.closed
  | none => A.closed

/-- the section the open one will become, if the rest of the file (from line `a`) completes it:
    it looks ahead with `closeFrom`.  The invariant of `abs_gen` is that `closed ++ pending` are
    the specified sections that start before `a`. -/
def pending (o : Option (Nat × List Nat)) (a : Nat) : List Spec.Section :=
  match o with
  | none => []
  | some (i0, bs) => (closeFrom R i0 bs a).toList

variable {R}

theorem closeFrom_skip {i0 a : Nat} {bs : List Nat} (h : a < R.n) (hs : R.sp a = false)
    (he : R.ep a = false) :
    closeFrom R i0 bs a = closeFrom R i0 (bs ++ if R.bp a then [a] else []) (a + 1) := by
  unfold closeFrom
  rw [firstFrom_step _ h, hs, he, Bool.or_false, if_neg Bool.false_ne_true]
  cases hf : firstFrom (fun j => R.sp j || R.ep j) (a + 1) R.n with
  | some j => simp only [between_step R.bp (firstFrom_some hf).1, List.append_assoc]
  | none => simp only [between_step R.bp h, List.append_assoc]

theorem closeFrom_stop {i0 a : Nat} {bs : List Nat} (h : a < R.n)
    (hse : (R.sp a || R.ep a) = true) :
    closeFrom R i0 bs a =
      if R.sp a = true ∧ R.keep = false then none else some ⟨i0, bs, R.mark a⟩ := by
  simp only [closeFrom, firstFrom_step _ h, if_pos hse, between_self, List.append_nil]
  cases R.sp a <;> cases R.keep <;> rfl

theorem closeFrom_end {i0 : Nat} {bs : List Nat} :
    closeFrom R i0 bs R.n = if R.endEmpty then some ⟨i0, bs, R.mark R.n⟩ else none := by
  simp only [closeFrom, firstFrom_end, between_self, List.append_nil]

theorem absStep_pending {A : ASt} {a : Nat} (h : a < R.n) :
    (absStep R A a).closed ++ pending R (absStep R A a).opn (a + 1) =
      A.closed ++ pending R A.opn a ++ (secAt R a).toList := by
  obtain ⟨cl, _ | ⟨i0, bs⟩⟩ := A
  · cases hs : R.sp a <;> simp [absStep, pending, secAt, hs]
  · cases hs : R.sp a
    · cases he : R.ep a
      · simp [absStep, pending, secAt, hs, he, closeFrom_skip h hs he]
      · simp [absStep, pending, secAt, hs, he, closeFrom_stop h (by simp [he])]
    · cases hk : R.keep <;>
        simp [absStep, pending, secAt, hs, hk, closeFrom_stop h (by simp [hs])]

theorem abs_gen : ∀ (k a : Nat) (A : ASt), a + k = R.n →
    absFin R ((List.range' a k).foldl (absStep R) A) =
      A.closed ++ pending R A.opn a ++ (List.range' a k).filterMap (secAt R)
  | 0, a, ⟨cl, o⟩, h => by
    obtain rfl : a = R.n := by omega
    rcases o with _ | ⟨i0, bs⟩
    · simp [absFin, pending]
    · cases he : R.endEmpty <;> simp [absFin, pending, closeFrom_end, he]
  | k + 1, a, A, h => by
    rw [List.range'_succ, List.foldl_cons, abs_gen k (a + 1) _ (by omega), List.filterMap_cons,
      absStep_pending (by omega)]
    cases secAt R a <;> simp

theorem abs_spec :
    absFin R ((List.range R.n).foldl (absStep R) ⟨[], none⟩) =
      (List.range R.n).filterMap (secAt R) := by
  rw [List.range_eq_range', abs_gen R.n 0 _ (by omega)]
  rfl

end Sk
