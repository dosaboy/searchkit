/-
  SkModel.Proofs.Gate — the per-definition constraint gate, for C07.  Before the
  activation line every line is skipped (under homogeneity); from the activation line
  on, the constrained definition runs exactly like the same definition without
  constraints (`solo_gate_eq`).
-/
import SkModel.Proofs.SimpleCore
import SkModel.Proofs.SeqCoreAbs
import SkModel.Spec.Gate

namespace Sk

/-- the same search registered without constraints: what C07 compares the gated run with -/
def Def.unconstrained (d : Def) : Def := { d with cons := [] }

/-- every field of the per-definition state except `runnable` -/
def DSt.core (st : DSt) := (st.started, st.cnt, st.sec, st.seqRes, st.everAdded)

namespace Gate

theorem applySingleGo_eq : ∀ (l : List COut) (any all : Bool),
    applySingleGo l any all =
      if .fail ∈ l then (false, false)
      else (any || l.any (· == .pass), all && l.all (· != .undec))
  | [], any, all => by simp [applySingleGo]
  | c :: r, any, all => by
    cases c <;> simp [applySingleGo, applySingleGo_eq r,
      show (COut.pass != COut.undec) = true from rfl, show (COut.undec == COut.pass) = false from rfl]

theorem applySingle_allPass {l : List COut} (hne : l ≠ []) (hp : l.all (· == .pass) = true) :
    applySingle l = (true, true) := by
  obtain ⟨c, hc⟩ := List.exists_mem_of_ne_nil l hne
  simp only [List.all_eq_true, beq_iff_eq] at hp
  have hf : COut.fail ∉ l := fun h => nomatch hp _ h
  rw [applySingle, if_neg (by simpa using hne), applySingleGo_eq, if_neg hf]
  simp only [Bool.false_or, Bool.true_and, Prod.mk.injEq, List.any_eq_true, List.all_eq_true]
  exact ⟨⟨c, hc, by simp [hp c hc]⟩, fun x hx => by simp [hp x hx]⟩

theorem applySingle_skip {l : List COut} (hne : l ≠ [])
    (hh : (l.all (· == .undec) || l.all (· != .undec)) = true) (hp : l.all (· == .pass) = false) :
    applySingle l = (false, false) := by
  rw [applySingle, if_neg (by simpa using hne), applySingleGo_eq]
  split
  · rfl
  · rename_i hf
    obtain ⟨c, hc⟩ := List.exists_mem_of_ne_nil l hne
    simp only [Bool.or_eq_true, List.all_eq_true, beq_iff_eq, bne_iff_ne] at hh
    rcases hh with hu | hd
    · -- no constraint can decide: none passes
      have h1 : l.any (· == .pass) = false := List.any_eq_false.mpr fun x hx => by simp [hu x hx]
      have h2 : l.all (· != .undec) = false := List.all_eq_false.mpr ⟨c, hc, by simp [hu c hc]⟩
      simp [h1, h2]
    · -- every constraint decides and none fails, so all pass
      have : l.all (· == .pass) = true := List.all_eq_true.mpr fun x hx => by
        cases h : x with
        | pass => rfl
        | fail => exact absurd (h ▸ hx) hf
        | undec => exact absurd h (hd x hx)
      rw [hp] at this; cases this

theorem gate_skip {d : Def} {i : Nat} (hne : d.cons ≠ [])
    (hh : Spec.homogeneousAt d.cons i = true) (hp : Spec.allPass d.cons i = false) :
    gate i d false = none := by
  have := applySingle_skip (l := d.cons.map fun c => c i) (by simpa using hne)
    (by rw [List.all_map, List.all_map]; exact hh) (by rw [List.all_map]; exact hp)
  simp [gate, this]

theorem gate_activate {d : Def} {i : Nat} (hne : d.cons ≠ []) (hp : Spec.allPass d.cons i = true) :
    gate i d false = some true := by
  have := applySingle_allPass (l := d.cons.map fun c => c i) (by simpa using hne)
    (by rw [List.all_map]; exact hp)
  simp [gate, this]

theorem solo_skip {d : Def} (hne : d.cons ≠ []) : ∀ (is : List Nat) (st : DSt),
    st.runnable = false →
    (∀ i ∈ is, Spec.homogeneousAt d.cons i = true ∧ Spec.allPass d.cons i = false) →
    soloLoop d st is = .ok (st, [])
  | [], st, _, _ => rfl
  | i :: is, st, hr, h => by
    have hi := h i (by simp)
    rw [soloLoop_cons, defStep_eq, hr, gate_skip hne hi.1 hi.2]
    show (soloLoop d st is >>= _) = _
    rw [solo_skip hne is st hr (fun j hj => h j (by simp [hj]))]
    rfl

theorem solo_runnable (d : Def) : ∀ (is : List Nat) (st : DSt), st.runnable = true →
    soloLoop d st is = soloLoop d.unconstrained st is
  | [], _, _ => rfl
  | i :: is, st, hr => by
    rw [soloLoop_cons, soloLoop_cons, defStep_runnable hr, defStep_runnable hr]
    -- `defBody` never looks at the constraints
    show (defBody i d st >>= _) = (defBody i d st >>= _)
    cases h : defBody i d st with
    | error e => rfl
    | ok p =>
      show (soloLoop d p.1 is >>= _) = (soloLoop d.unconstrained p.1 is >>= _)
      rw [solo_runnable d is p.1 ((defBody_keeps (st' := p.1) (o := p.2) h).1.trans hr)]

theorem solo_gate_true {d : Def} {i : Nat} {st : DSt} (hg : gate i d st.runnable = some true)
    (is : List Nat) : soloLoop d st (i :: is) = soloLoop d { st with runnable := true } (i :: is) := by
  rw [soloLoop_cons, soloLoop_cons, defStep_eq, hg, defStep_runnable rfl]

theorem activation_some {cons : List (Nat → COut)} {n a : Nat}
    (h : Spec.activation cons n = some a) :
    a < n ∧ Spec.allPass cons a = true ∧ ∀ i, i < a → Spec.allPass cons i = false :=
  have ⟨_, h2, h3, h4⟩ := firstFrom_some h
  ⟨h2, h3, fun i hi => h4 i (Nat.zero_le i) hi⟩

theorem activation_none {cons : List (Nat → COut)} {n : Nat}
    (h : Spec.activation cons n = none) : ∀ i, i < n → Spec.allPass cons i = false :=
  fun i hi => firstFrom_none h i (Nat.zero_le i) hi

theorem activation_getD_le (cons : List (Nat → COut)) (n : Nat) :
    (Spec.activation cons n).getD n ≤ n := by
  cases h : Spec.activation cons n with
  | none => exact Nat.le_refl n
  | some a => exact Nat.le_of_lt (activation_some h).1

theorem range_split (a n : Nat) (h : a ≤ n) :
    List.range n = List.range a ++ List.range' a (n - a) := by
  have := (List.range'_append_1 (s := 0) (m := a) (n := n - a)).symm
  rwa [Nat.add_sub_cancel' h, Nat.zero_add, ← List.range_eq_range', ← List.range_eq_range'] at this

theorem solo_gate_eq (d : Def) (hne : d.cons ≠ []) (n : Nat)
    (hom : Spec.homogeneous d.cons n = true) :
    soloLoop d (DSt.init d) (List.range n) =
      match Spec.activation d.cons n with
      | some a => soloLoop d.unconstrained (DSt.init d.unconstrained) (List.range' a (n - a))
      | none => .ok (DSt.init d, []) := by
  have hr : (DSt.init d).runnable = false := by simp [DSt.init, hne]
  have hhom : ∀ i, i < n → Spec.homogeneousAt d.cons i = true := fun i hi => by
    simp only [Spec.homogeneous, List.all_eq_true, List.mem_range] at hom
    exact hom i hi
  cases hact : Spec.activation d.cons n with
  | none =>
    exact solo_skip hne _ _ hr fun i hi =>
      ⟨hhom i (List.mem_range.mp hi), activation_none hact i (List.mem_range.mp hi)⟩
  | some a =>
    obtain ⟨han, hpa, hbefore⟩ := activation_some hact
    obtain ⟨k, hk⟩ : ∃ k, n - a = k + 1 := ⟨n - a - 1, by omega⟩
    show _ = soloLoop d.unconstrained _ (List.range' a (n - a))
    rw [range_split a n (Nat.le_of_lt han), soloLoop_append, hk, List.range'_succ,
      solo_skip hne (List.range a) _ hr fun i hi =>
        ⟨hhom i (by have := List.mem_range.mp hi; omega), hbefore i (List.mem_range.mp hi)⟩]
    show (soloLoop d (DSt.init d) (a :: _) >>= _) = soloLoop d.unconstrained _ (a :: _)
    rw [solo_gate_true (hr ▸ gate_activate hne hpa), solo_runnable d _ _ rfl]
    simp [DSt.init, Def.unconstrained]

theorem spec_from (sd : SDef) (a n : Nat) (h : a ≤ n) :
    (Spec.simple sd n).filter (fun p => decide (a < p.1)) =
      (List.range' a (n - a)).filterMap (specLine sd) := by
  have key : ∀ {is : List Nat} {p}, p ∈ is.filterMap (specLine sd) → ∃ i ∈ is, p.1 = i + 1 := by
    intro is p hp
    obtain ⟨i, hi, hs⟩ := List.mem_filterMap.mp hp
    rw [specLine, Option.map_eq_some_iff] at hs
    obtain ⟨_, _, rfl⟩ := hs
    exact ⟨i, hi, rfl⟩
  have before : ∀ p ∈ (List.range a).filterMap (specLine sd), ¬ decide (a < p.1) = true := by
    intro p hp
    obtain ⟨i, hi, e⟩ := key hp
    have := List.mem_range.mp hi
    simp only [decide_eq_true_eq]; omega
  have after : ∀ p ∈ (List.range' a (n - a)).filterMap (specLine sd), decide (a < p.1) = true := by
    intro p hp
    obtain ⟨i, hi, e⟩ := key hp
    have := (List.mem_range'_1.mp hi).1
    simp only [decide_eq_true_eq]; omega
  rw [spec_simple_eq, range_split a n h, List.filterMap_append, List.filter_append,
    List.filter_eq_nil_iff.mpr before, List.filter_eq_self.mpr after, List.nil_append]

end Gate

end Sk
