/-
  SkModel.Proofs.Calendar — arithmetic of the proleptic Gregorian calendar model in
  `SkModel.Since`: year/month prefix sums, ordinal monotonicity, and the fact that the
  lexicographic order on valid `Civil` values is the order of `toSeconds`.
-/
import SkModel.Since

namespace Sk.Cal

def leapN (y : Nat) : Nat := if isLeap y then 1 else 0

theorem leapN_le (y : Nat) : leapN y ≤ 1 := by
  unfold leapN; split <;> omega

theorem isLeap_iff (y : Nat) : isLeap y = true ↔ 4 ∣ y ∧ (¬ 100 ∣ y ∨ 400 ∣ y) := by
  simp [isLeap, Nat.dvd_iff_mod_eq_zero]

/-- The Gregorian rule as inclusion–exclusion over the nested divisors 4, 100, 400; this is the
    form in which `Nat.succ_div` meets it in `daysBeforeYear`. -/
theorem leapN_add (y : Nat) :
    leapN y + (if 100 ∣ y then 1 else 0) = (if 4 ∣ y then 1 else 0) + (if 400 ∣ y then 1 else 0) := by
  have h4 : 100 ∣ y → 4 ∣ y := Nat.dvd_trans (by decide)
  have h100 : 400 ∣ y → 100 ∣ y := Nat.dvd_trans (by decide)
  unfold leapN
  simp only [isLeap_iff]
  by_cases c400 : 400 ∣ y
  · simp [c400, h100 c400, h4 (h100 c400)]
  · by_cases c100 : 100 ∣ y
    · simp [c400, c100, h4 c100]
    · by_cases c4 : 4 ∣ y <;> simp [c400, c100, c4]

theorem daysBeforeYear_succ (y : Nat) (h : 1 ≤ y) :
    daysBeforeYear (y + 1) = daysBeforeYear y + (365 + leapN y) := by
  -- the quotients stay opaque: an `omega` that sees `/ 4`, `/ 100`, `/ 400` of `k` and `k + 1`
  -- takes three times the heartbeats of this whole proof
  have key : ∀ A B C A' B' C' a b c l : Nat, A' = A + a → B' = B + b → C' = C + c →
      B ≤ A → B' ≤ A' → l + b = a + c → ∀ k,
      (k + 1) * 365 + A' - B' + C' = k * 365 + A - B + C + (365 + l) := by omega
  cases y with
  | zero => cases h
  | succ k =>
    exact key _ _ _ _ _ _ _ _ _ _ Nat.succ_div Nat.succ_div Nat.succ_div
      (Nat.div_le_div_left (by decide) (by decide)) (Nat.div_le_div_left (by decide) (by decide))
      (leapN_add (k + 1)) k

theorem add_le_of_succ_eq {f g : Nat → Nat} {m n : Nat}
    (hs : ∀ i, m ≤ i → i < n → f (i + 1) = f i + g i) (h : m < n) : f m + g m ≤ f n := by
  induction n with
  | zero => cases h
  | succ n ih =>
    rw [hs n (by omega) (by omega)]
    by_cases hn : m = n
    · subst hn; omega
    · have := ih (fun i h1 h2 => hs i h1 (by omega)) (by omega)
      omega

theorem daysBeforeYear_lt (y1 y2 : Nat) (h1 : 1 ≤ y1) (h : y1 < y2) :
    daysBeforeYear y1 + (365 + leapN y1) ≤ daysBeforeYear y2 :=
  add_le_of_succ_eq (fun i hi _ => daysBeforeYear_succ i (by omega)) h

theorem daysBeforeMonth_succ (y mo : Nat) (h : mo < 12) :
    daysBeforeMonth y (mo + 1) = daysBeforeMonth y mo + daysInMonth y mo := by
  unfold daysBeforeMonth daysInMonth
  generalize isLeap y = l
  revert mo l
  decide

theorem daysBeforeMonth_one (y : Nat) : daysBeforeMonth y 1 = 0 := rfl

theorem daysBeforeMonth_twelve (y : Nat) :
    daysBeforeMonth y 12 + daysInMonth y 12 = 365 + leapN y := by
  unfold daysBeforeMonth daysInMonth leapN
  generalize isLeap y = l
  revert l
  decide

theorem daysBeforeMonth_lt (y m1 m2 : Nat) (h : m1 < m2) (h2 : m2 ≤ 12) :
    daysBeforeMonth y m1 + daysInMonth y m1 ≤ daysBeforeMonth y m2 :=
  add_le_of_succ_eq (fun i _ hi => daysBeforeMonth_succ y i (by omega)) h

theorem daysBeforeMonth_add_le (y mo : Nat) (h : mo ≤ 12) :
    daysBeforeMonth y mo + daysInMonth y mo ≤ 365 + leapN y := by
  rw [← daysBeforeMonth_twelve y]
  rcases Nat.lt_or_eq_of_le h with h | rfl
  · exact Nat.le_trans (daysBeforeMonth_lt y mo 12 h (Nat.le_refl _)) (Nat.le_add_right _ _)
  · exact Nat.le_refl _

theorem valid_iff (c : Civil) :
    c.valid = true ↔
      (1 ≤ c.y ∧ c.y ≤ 9999 ∧ 1 ≤ c.mo ∧ c.mo ≤ 12 ∧ 1 ≤ c.d ∧ c.d ≤ daysInMonth c.y c.mo ∧
        c.h < 24 ∧ c.mi < 60 ∧ c.s < 60) := by
  simp [Civil.valid, and_assoc]

theorem ordinal_bounds (c : Civil) (hc : c.valid = true) :
    daysBeforeYear c.y + 1 ≤ c.ordinal ∧
      c.ordinal ≤ daysBeforeYear c.y + (365 + leapN c.y) := by
  rw [valid_iff] at hc
  have := daysBeforeMonth_add_le c.y c.mo hc.2.2.2.1
  unfold Civil.ordinal
  omega

theorem lt_iff (a b : Civil) :
    a.lt b = true ↔
      (a.y < b.y ∨ (a.y = b.y ∧ (a.mo < b.mo ∨ (a.mo = b.mo ∧ (a.d < b.d ∨ (a.d = b.d ∧
        (a.h < b.h ∨ (a.h = b.h ∧ (a.mi < b.mi ∨ (a.mi = b.mi ∧ a.s < b.s)))))))))) := by
  simp [Civil.lt]

/-- `T` is whatever breaks a tie, so that the result fits under `Civil.lt` as `lt_iff` unfolds it. -/
theorem ordinal_lex (a b : Civil) (ha : a.valid = true) (hb : b.valid = true) {T : Prop}
    (h : a.y < b.y ∨ a.y = b.y ∧ (a.mo < b.mo ∨ a.mo = b.mo ∧ (a.d < b.d ∨ a.d = b.d ∧ T))) :
    a.ordinal < b.ordinal ∨ a.ordinal = b.ordinal ∧ T := by
  rcases h with h | ⟨hy, h⟩
  · have := (ordinal_bounds a ha).2
    have := (ordinal_bounds b hb).1
    have := daysBeforeYear_lt a.y b.y ((valid_iff a).1 ha).1 h
    omega
  · rw [valid_iff] at ha hb
    unfold Civil.ordinal
    rw [hy] at ha ⊢
    rcases h with h | ⟨hm, h | ⟨hd, h⟩⟩
    · have := daysBeforeMonth_lt b.y a.mo b.mo h hb.2.2.2.1
      omega
    · rw [hm]; omega
    · rw [hm, hd]; exact .inr ⟨rfl, h⟩

theorem radix_lt {o o' h h' mi mi' s s' : Nat} (hh : h < 24) (hmi : mi < 60) (hs : s < 60)
    (lex : o < o' ∨ o = o' ∧ (h < h' ∨ h = h' ∧ (mi < mi' ∨ mi = mi' ∧ s < s'))) :
    ((((o : Int) * 24 + h) * 60 + mi) * 60 + s) < ((((o' : Int) * 24 + h') * 60 + mi') * 60 + s') := by
  omega

theorem lt_toSeconds (a b : Civil) (ha : a.valid = true) (hb : b.valid = true)
    (h : a.lt b = true) : a.toSeconds < b.toSeconds := by
  obtain ⟨_, _, _, _, _, _, hh, hmi, hs⟩ := (valid_iff a).1 ha
  exact radix_lt hh hmi hs (ordinal_lex a b ha hb ((lt_iff a b).1 h))

/-- one more leading component keeps a lexicographic order trichotomous -/
theorem lex_trichotomy {x y : Nat} {P R Q : Prop} (h : P ∨ R ∨ Q) :
    (x < y ∨ x = y ∧ P) ∨ (x = y ∧ R) ∨ (y < x ∨ y = x ∧ Q) := by
  rcases Nat.lt_trichotomy x y with hxy | rfl | hxy
  · exact .inl (.inl hxy)
  · rcases h with h | h | h
    · exact .inl (.inr ⟨rfl, h⟩)
    · exact .inr (.inl ⟨rfl, h⟩)
    · exact .inr (.inr (.inr ⟨rfl, h⟩))
  · exact .inr (.inr (.inl hxy))

theorem lt_trichotomy (a b : Civil) : a.lt b = true ∨ a = b ∨ b.lt a = true := by
  rw [lt_iff, lt_iff]
  obtain ⟨ay, amo, ad, ah, ami, as⟩ := a
  obtain ⟨b_y, bmo, bd, bh, bmi, bs⟩ := b
  simp only [Civil.mk.injEq]
  exact lex_trichotomy (lex_trichotomy (lex_trichotomy (lex_trichotomy (lex_trichotomy
    (Nat.lt_trichotomy _ _)))))

end Sk.Cal
