/-
  SkModel.Proofs.Persist — a task started from definition objects that carry state
  (`runTaskFrom`) simulates the task started from fresh objects (`runTask`): same control
  flow, same errors, the section ids of definition `id` moved up by `(p id).cnt`.
  `ExRel` lifts a relation on values to `Except`; `Rel` is the relation between the two
  states of one definition; every function of `SkModel.Task` from `seqStep` up to `runTask`
  preserves it.
-/
import SkModel.Runner
import SkModel.Proofs.DefStep
import SkModel.Proofs.Grouping

namespace Sk.Run

def ExRel {α β : Type} (R : α → β → Prop) : Except Err α → Except Err β → Prop
  | .ok a, .ok b => R a b
  | .error e, .error e' => e = e'
  | _, _ => False

theorem ExRel.ok {α β : Type} {R : α → β → Prop} {a : α} {b : β} (h : R a b) :
    ExRel R (.ok a : Except Err α) (.ok b) := h

theorem ExRel.bind {α β α' β' : Type} {R : α → β → Prop} {S : α' → β' → Prop}
    {x : Except Err α} {y : Except Err β} {f : α → Except Err α'} {g : β → Except Err β'}
    (h : ExRel R x y) (hf : ∀ a b, R a b → ExRel S (f a) (g b)) : ExRel S (x >>= f) (y >>= g) :=
  match x, y, h with
  | .ok a, .ok b, h => hf a b h
  | .error _, .error _, h => h
  | .ok _, .error _, h | .error _, .ok _, h => h.elim

theorem ExRel.mono {α β : Type} {R S : α → β → Prop} {x : Except Err α} {y : Except Err β}
    (h : ExRel R x y) (hrs : ∀ a b, R a b → S a b) : ExRel S x y := by
  cases x <;> cases y <;> simp only [ExRel] at h ⊢
  · exact h
  · exact hrs _ _ h

theorem ExRel.map_eq {α β : Type} {f : α → β} {x : Except Err α} {y : Except Err β}
    (h : ExRel (fun a b => b = f a) x y) : y = x.map f := by
  cases x <;> cases y <;> simp only [ExRel] at h <;> subst h <;> rfl

variable (p : Nat → SeqPersist)

theorem shiftSec_none {r : Res} (h : r.sec = none) : shiftSec p r = r := by
  cases r; simp_all [shiftSec]

theorem shiftSec_some {r : Res} {id k : Nat} (h : r.sec = some (id, k)) :
    (shiftSec p r).sec = some (id, k + (p id).cnt) := by
  simp [shiftSec, h]

theorem mkSeqRes_rel (id : Nat) (s : SeqDef) (sfx : String) (sd : SDef) (ln k : Nat) (m : Match) :
    ExRel (fun r r' => r' = shiftSec p r ∧ r.sec = some (id, k))
      (mkSeqRes id s sfx sd ln k m) (mkSeqRes id s sfx sd ln ((p id).cnt + k) m) := by
  unfold mkSeqRes
  cases mkParts sd m with
  | error e => exact rfl
  | ok ps => exact ⟨by simp [shiftSec, Nat.add_comm], rfl⟩

/-- per-definition simulation relation (`st` fresh run, `st'` run from carried state) -/
structure Rel (id : Nat) (st st' : DSt) : Prop where
  runnable : st'.runnable = st.runnable
  started : st'.started = st.started
  cnt : st'.cnt = st.cnt + (p id).cnt
  sec : st.started = true → st'.sec = st.sec + (p id).cnt
  seqRes : st'.seqRes = st.seqRes.map (shiftSec p)
  everAdded : st'.everAdded = st.everAdded
  secInv : ∀ r ∈ st.seqRes, ∃ k, r.sec = some (id, k)

theorem filter_shift {id sec : Nat} {l : List Res} (h : ∀ r ∈ l, ∃ k, r.sec = some (id, k)) :
    (l.map (shiftSec p)).filter (fun r => r.sec != some (id, sec + (p id).cnt))
      = (l.filter (fun r => r.sec != some (id, sec))).map (shiftSec p) := by
  rw [List.filter_map]
  refine congrArg _ (List.filter_congr fun r hr => ?_)
  obtain ⟨k, hk⟩ := h r hr
  rw [Bool.eq_iff_iff, Function.comp_apply, shiftSec_some p hk, hk]
  simp

/-- written `d + ·` so that each leaf of `seqPlan` shifts by `rfl` -/
def _root_.Sk.SeqPlan.shift (d : Nat) : SeqPlan → SeqPlan
  | .idle => .idle
  | .file drop sfx sd m k started cnt sec => .file drop sfx sd m (d + k) started (d + cnt) (d + sec)

/-- `sec` is read inside a section only, which is why `Rel` may leave it free outside -/
theorem seqPlan_shift (s : SeqDef) (i : Nat) {started : Bool} {cnt sec sec' : Nat} (d : Nat)
    (h : started = true → sec' = d + sec) :
    seqPlan s i started (d + cnt) sec' = (seqPlan s i started cnt sec).shift d := by
  unfold seqPlan
  cases started
  · cases s.start.run i <;> rfl
  · obtain rfl := h rfl
    cases s.start.run i
    · rcases hitOf s.end_ i with _ | ⟨e, m⟩
      · rcases hitOf s.body i with _ | ⟨b, m⟩ <;> rfl
      · rfl
    · cases s.end_.isSome <;> rfl

theorem seqStep_rel {id : Nat} {s : SeqDef} {i : Nat} {st st' : DSt} (hr : Rel p id st st') :
    ExRel (Rel p id) (seqStep id s i st) (seqStep id s i st') := by
  have hc := hr.cnt.trans (Nat.add_comm ..)
  have hs := fun h => (hr.sec h).trans (Nat.add_comm ..)
  rw [seqStep_eq_exec, seqStep_eq_exec, hr.started, hc, seqPlan_shift s i _ hs]
  cases hpl : seqPlan s i st.started st.cnt st.sec with
  | idle => exact .ok hr
  | file drop sfx sd m k started cnt sec =>
    have hd := (seqPlan_file hpl).2.2
    refine (mkSeqRes_rel p ..).bind ?_
    rintro r _ ⟨rfl, hk⟩
    refine .ok ⟨hr.runnable, rfl, Nat.add_comm .., fun _ => Nat.add_comm .., ?_, rfl, fun x hx => ?_⟩
    · -- results are dropped inside a section only, where `sec` is related
      cases drop
      · simp [hr.seqRes]
      · simp [hr.seqRes, hr.sec (hd rfl), filter_shift p hr.secInv]
    · rcases List.mem_append.1 hx with hx | hx
      · refine hr.secInv x ?_
        split at hx
        · exact (List.mem_filter.1 hx).1
        · exact hx
      · exact ⟨k, by rw [List.mem_singleton.1 hx, hk]⟩

def StepRel (id : Nat) : DSt × List Res → DSt × List Res → Prop
  | (st, out), (st', out') => Rel p id st st' ∧ out' = out.map (shiftSec p)

theorem defBody_rel {i : Nat} {d : Def} {st st' : DSt} (h : Rel p d.id st st') :
    ExRel (StepRel p d.id) (defBody i d st) (defBody i d st') := by
  unfold defBody
  cases d.kind with
  | simple sd =>
    dsimp only
    cases sd.run i with
    | none => exact .ok ⟨h, rfl⟩
    | some m =>
      dsimp only
      cases hm : mkSimpleRes d.id sd (i + 1) m with
      | error e => exact rfl
      | ok r => exact .ok ⟨h, by simp [shiftSec_none p (mkSimpleRes_ok hm).2.2.2.2.1]⟩
  | seq s => exact (seqStep_rel p h).bind fun _ _ hab => .ok ⟨hab, rfl⟩

theorem defStep_rel {i : Nat} {d : Def} {st st' : DSt} (h : Rel p d.id st st') :
    ExRel (StepRel p d.id) (defStep i d st) (defStep i d st') := by
  rw [defStep_eq, defStep_eq, h.runnable]
  cases gate i d st.runnable with
  | none => exact .ok ⟨h, rfl⟩
  | some b => exact defBody_rel p { h with runnable := rfl }

inductive AllRel : List Def → List DSt → List DSt → Prop
  | nil : AllRel [] [] []
  | cons {d ds st sts st' sts'} : Rel p d.id st st' → AllRel ds sts sts' →
      AllRel (d :: ds) (st :: sts) (st' :: sts')

def StepsRel (defs : List Def) :
    List DSt × List Res × List Nat → List DSt × List Res × List Nat → Prop
  | (sts, outs, ord), (sts', outs', ord') =>
    AllRel p defs sts sts' ∧ outs' = outs.map (shiftSec p) ∧ ord' = ord

theorem defsStep_rel {i : Nat} {defs : List Def} {sts sts' : List DSt} (h : AllRel p defs sts sts') :
    ExRel (StepsRel p defs) (defsStep i defs sts) (defsStep i defs sts') := by
  induction h with
  | nil => exact .ok ⟨.nil, rfl, rfl⟩
  | cons h1 _ ih =>
    refine (defStep_rel p (i := i) h1).bind ?_
    rintro ⟨a1, o1⟩ ⟨b1, _⟩ ⟨hab, rfl⟩
    refine ih.bind ?_
    rintro ⟨as, os, od⟩ ⟨bs, _, _⟩ ⟨habs, rfl, rfl⟩
    exact .ok ⟨.cons hab habs, by simp, by rw [h1.everAdded, hab.everAdded]⟩

def LRel (defs : List Def) (a b : LSt) : Prop :=
  AllRel p defs a.sts b.sts ∧ b.simple = a.simple.map (shiftSec p) ∧ b.order = a.order

theorem lineStep_rel {dec : Nat → Bool} {defs : List Def} {a b : LSt} (i : Nat)
    (h : LRel p defs a b) : ExRel (LRel p defs) (lineStep dec defs a i) (lineStep dec defs b i) := by
  unfold lineStep
  cases dec i with
  | false => exact rfl
  | true =>
    refine (defsStep_rel p (i := i) h.1).bind ?_
    rintro ⟨as, os, od⟩ ⟨bs, _, _⟩ ⟨habs, rfl, rfl⟩
    exact .ok ⟨habs, by simp [h.2.1], by simp [h.2.2]⟩

theorem linesLoop_rel {dec : Nat → Bool} {defs : List Def} : ∀ (is : List Nat) {a b : LSt},
    LRel p defs a b → ExRel (LRel p defs) (linesLoop dec defs a is) (linesLoop dec defs b is)
  | [], _, _, h => .ok h
  | i :: is, _, _, h => (lineStep_rel p i h).bind fun _ _ h' => linesLoop_rel is h'

theorem eofDef_rel {n : Nat} {d : Def} {st st' : DSt} (h : Rel p d.id st st') :
    ExRel (fun a b => b = a.map (shiftSec p)) (eofDef n d st) (eofDef n d st') := by
  unfold eofDef
  cases d.kind with
  | simple sd => exact .ok rfl
  | seq s =>
    simp only [h.started]
    cases hS : st.started with
    | false => exact .ok h.seqRes
    | true =>
      have hsec := (h.sec hS).trans (Nat.add_comm ..)
      simp only [if_true]
      cases s.end_ with
      | none => exact .ok h.seqRes
      | some e =>
        dsimp only
        cases e.emptyRes with
        | none =>
          refine .ok ?_
          rw [h.seqRes, h.sec hS, filter_shift p h.secInv]
        | some m =>
          rw [hsec]
          refine (mkSeqRes_rel p ..).bind ?_
          rintro r _ ⟨rfl, _⟩
          exact .ok (by simp [h.seqRes])

def shiftFinals (fs : List (Nat × List Res)) : List (Nat × List Res) :=
  fs.map fun x => (x.1, x.2.map (shiftSec p))

theorem eofAll_rel {n : Nat} {defs : List Def} {sts sts' : List DSt} (h : AllRel p defs sts sts') :
    ExRel (fun a b => b = shiftFinals p a) (eofAll n defs sts) (eofAll n defs sts') := by
  induction h with
  | nil => exact .ok rfl
  | cons h1 _ ih =>
    refine (eofDef_rel p (n := n) h1).bind ?_
    rintro r _ rfl
    refine ih.bind ?_
    rintro rs _ rfl
    exact .ok rfl

theorem lookup_shiftFinals (id : Nat) (fs : List (Nat × List Res)) :
    ((shiftFinals p fs).lookup id).getD [] = ((fs.lookup id).getD []).map (shiftSec p) := by
  rw [shiftFinals, Coll14.lookup_map_snd fs fun _ rs => rs.map (shiftSec p)]
  cases fs.lookup id <;> rfl

theorem AllRel.init : ∀ (defs : List Def), AllRel p defs (defs.map DSt.init) (defs.map (DSt.initFrom p))
  | [] => .nil
  | d :: ds => .cons ⟨rfl, rfl, by simp [DSt.init, DSt.initFrom], by simp [DSt.init], rfl, rfl,
      by simp [DSt.init]⟩ (AllRel.init ds)

theorem runTaskFrom_rel (t : TaskIn) :
    ExRel (fun a b => b = (a.1.map (shiftSec p), a.2)) (runTask t) (runTaskFrom p t) := by
  unfold runTask runTaskFrom
  refine (linesLoop_rel p (List.range t.n) (a := { sts := _ }) (b := { sts := _ })
    ⟨AllRel.init p _, rfl, rfl⟩).bind ?_
  rintro ls ls' ⟨h1, h2, h3⟩
  refine (eofAll_rel p (n := t.n) h1).bind ?_
  rintro fs _ rfl
  refine .ok ?_
  simp only [h2, h3, lookup_shiftFinals, ← List.map_flatMap, List.map_append, List.length_append,
    List.length_map]

end Sk.Run
