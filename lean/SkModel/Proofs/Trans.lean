/-
  Runs of a transition system given by an `Option`-valued step function.  The models' `frun`,
  `crun`, `cacheRun`, `prun` and `poolRun` are each this one recursion over their own step
  function, so what holds "for every interleaving" is proved here once.
-/

namespace Sk.LTS

variable {σ ι : Type}

def run (step : σ → ι → Option σ) : σ → List ι → Option σ
  | s, [] => some s
  | s, l :: ls => match step s l with
    | some t => run step t ls
    | none => none

variable {step : σ → ι → Option σ}

theorem run_cons (s : σ) (l : ι) (ls : List ι) :
    run step s (l :: ls) = (step s l).bind (run step · ls) := by
  cases h : step s l <;> simp [run, h]

theorem run_cons_of {s t : σ} {l : ι} (h : step s l = some t) (ls : List ι) :
    run step s (l :: ls) = run step t ls := by
  simp [run_cons, h]

theorem run_append (s : σ) (a b : List ι) :
    run step s (a ++ b) = (run step s a).bind (run step · b) := by
  induction a generalizing s with
  | nil => rfl
  | cons l a ih => cases h : step s l <;> simp [run_cons, h, ih]

theorem run_induct {C : σ → List ι → σ → Prop} (nil : ∀ s, C s [] s)
    (cons : ∀ {s l t ls s'}, step s l = some t → run step t ls = some s' → C t ls s' →
      C s (l :: ls) s') :
    ∀ {ls s s'}, run step s ls = some s' → C s ls s'
  | [], s, s', h => by cases h; exact nil s
  | l :: ls, s, s', h => by
    rw [run_cons] at h
    cases hs : step s l with
    | none => simp [hs] at h
    | some t => rw [hs] at h; exact cons hs h (run_induct nil cons h)

theorem run_inv {P : σ → Prop} (hstep : ∀ {s l t}, P s → step s l = some t → P t)
    {ls : List ι} {s s' : σ} (hs : P s) (h : run step s ls = some s') : P s' :=
  run_induct (C := fun s _ s' => P s → P s') (fun _ h => h)
    (fun hst _ ih hs => ih (hstep hs hst)) h hs

/-- A stuttering simulation transports runs: `keep` marks the labels that the target takes as
    well; at the others it stays where it is. -/
theorem run_sim {τ : Type} {step' : τ → ι → Option τ} {R : σ → τ → Prop}
    {keep : ι → Bool}
    (hsim : ∀ {s t l s'}, R s t → step s l = some s' →
      if keep l then ∃ t', step' t l = some t' ∧ R s' t' else R s' t)
    {ls : List ι} {s s' : σ} (h : run step s ls = some s') {t : τ} (hR : R s t) :
    ∃ t', run step' t (ls.filter keep) = some t' ∧ R s' t' :=
  run_induct
    (C := fun s ls s' => ∀ t, R s t → ∃ t', run step' t (ls.filter keep) = some t' ∧ R s' t')
    (fun _ t hR => ⟨t, rfl, hR⟩)
    (fun {_ l _ _ _} hst _ ih t hR => by
      have := hsim hR hst
      cases hk : keep l <;> rw [hk] at this <;> rw [List.filter_cons, hk]
      · exact ih t this
      · obtain ⟨t1, ht1, hR1⟩ := this
        obtain ⟨t', ht', hR'⟩ := ih t1 hR1
        exact ⟨t', (run_cons_of ht1 _).trans ht', hR'⟩) h t hR

/-- `c` selects the labels that are counted: such a step costs a unit of `μ`, no step raises it. -/
theorem run_count {μ : σ → Nat} {c : ι → Bool}
    (hdec : ∀ {s l t}, step s l = some t → (if c l then 1 else 0) + μ t ≤ μ s)
    {ls : List ι} {s s' : σ} (h : run step s ls = some s') :
    (ls.filter c).length + μ s' ≤ μ s :=
  run_induct (C := fun s ls s' => (ls.filter c).length + μ s' ≤ μ s) (fun _ => by simp)
    (fun {_ l _ _ _} hst _ ih => by
      have := hdec hst
      cases hc : c l <;> simp [hc] at this ⊢ <;> omega) h

theorem run_measure {μ : σ → Nat} (hdec : ∀ {s l t}, step s l = some t → μ t < μ s)
    {ls : List ι} {s s' : σ} (h : run step s ls = some s') : ls.length + μ s' ≤ μ s := by
  have := run_count (μ := μ) (c := fun _ => true) (fun hst => by have := hdec hst; simp; omega) h
  rwa [List.filter_eq_self.mpr fun _ _ => rfl] at this

/-- A rank that some enabled step lowers gives a finishing run; `G` is what such a step, hence
    the run, may use (for Fault: no fault label). -/
theorem run_of_progress {P Q : σ → Prop} {G : ι → Prop} {μ : σ → Nat}
    (hstep : ∀ {s l t}, P s → step s l = some t → P t)
    (hprog : ∀ {s}, P s → ¬ Q s → ∃ l t, G l ∧ step s l = some t ∧ μ t < μ s)
    {s : σ} (hs : P s) : ∃ ls t, (∀ l, l ∈ ls → G l) ∧ run step s ls = some t ∧ Q t := by
  induction hr : μ s using Nat.strongRecOn generalizing s with
  | _ r ih =>
    by_cases hq : Q s
    · exact ⟨[], s, nofun, rfl, hq⟩
    · obtain ⟨l, t, hl, ht, hlt⟩ := hprog hs hq
      obtain ⟨ls, u, hg, hu, hqu⟩ := ih _ (hr ▸ hlt) (hstep hs ht) rfl
      exact ⟨l :: ls, u, by simpa [hl] using hg, by rwa [run_cons_of ht], hqu⟩

-- For ranks that are a sum with one summand per process: a step that raises no summand does not
-- raise the rank, and one that also lowers a summand lowers it.
theorem sum_map_le {α : Type} {f g : α → Nat} :
    ∀ {l : List α}, (∀ x, x ∈ l → f x ≤ g x) → (l.map f).sum ≤ (l.map g).sum
  | [], _ => Nat.le_refl _
  | _ :: _, h => Nat.add_le_add (h _ (.head _)) (sum_map_le fun x hx => h x (.tail _ hx))

theorem sum_map_lt {α : Type} {f g : α → Nat} : ∀ {l : List α}, (∀ x, x ∈ l → f x ≤ g x) →
    ∀ {a}, a ∈ l → f a < g a → (l.map f).sum < (l.map g).sum
  | b :: l, h, a, ha, hlt => by
    have hl := fun x hx => h x (.tail _ hx)
    rcases List.mem_cons.1 ha with rfl | ha
    · exact Nat.add_lt_add_of_lt_of_le hlt (sum_map_le hl)
    · exact Nat.add_lt_add_of_le_of_lt (h b (.head _)) (sum_map_lt hl ha hlt)

end Sk.LTS
