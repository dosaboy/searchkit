/-
  SkModel.Proofs.SeekShape — one postcondition for each function of the since-seeker above
  `try_find_line` (`SeekL1.tryFindLine_post`), up to `apply_to_file`, for every file: an ok
  result is made of real line boundaries (and is a dated line), and an error is never the
  failed range assertion of `try_find_line` — that one only under the range assumption on the
  line feed the caller hands in, which every call inside the seeker meets.

  The walk is specified as `twdLoop .. fuel ..` (`twd_post` here, the steps and walks in SeekGov);
  `tryFindLineWithDate` is that loop with fuel `K.ATT` and has no lemma of its own in the proof
  files: to reason about a caller, `unfold tryFindLineWithDate` first.
-/
import SkModel.Proofs.SeekL1
import SkModel.Proofs.SeekBisect

namespace Sk

def IsLineStart (F : FileV) (p : Int) : Prop :=
  p = 0 ∨ ∃ i : Nat, p = (i : Int) + 1 ∧ i < F.len ∧ F.isLF i = true

namespace SeekShape
open SeekL1

@[simp] theorem off_found (o : Int) : (Tok.found o).off = o := rfl
@[simp] theorem off_edge (o : Int) : (Tok.edge o).off = o := rfl

theorem noAssert_mono {α : Type} {A B : Prop} {P : α → Prop} {x : Except SeekErr α}
    (h : Post (NoAssert A) P x) (hA : B → A) : Post (NoAssert B) P x :=
  h.imp (fun _ he hB => he (hA hB)) fun _ => id

/-- a dated line that passed the range assertions; `S`, `E` say what is known of its start and
    end token -/
def GoodLine (F : FileV) (ts : Nat → Option Int) (S E : Tok → Prop) (l : LLine) : Prop :=
  S l.slf ∧ E l.elf ∧ RangeOK F l.slf l.elf ∧ (l.date ts).isSome

/-- if the line feed the caller hands in is in range, no assertion fails; a returned line is
    dated, and its start and end token are each the caller's line feed or a real line feed / the
    file edge.  The known line feed `lfo` goes to the side the walk comes from: forwards it is
    handed to `tryFindLine` as the START line feed of the line looked up (in the walk, the end line
    feed of the line before), backwards as its END line feed (`(None, line_feed_offset)[forwards]`). -/
theorem twd_post (K : SeekK) (F : FileV) (ts : Nat → Option Int) (fwd : Bool) :
    ∀ (fuel off : Nat) (lfo : Option Int),
      Post (NoAssert (KnownOK F off (if fwd then lfo else none) (if fwd then none else lfo)))
        (fun r => ∀ l, r = some l →
          GoodLine F ts (Side (RealStart F) (if fwd then lfo else none))
            (Side (RealEnd F) (if fwd then none else lfo)) l)
        (twdLoop K F ts fwd fuel off lfo)
  | 0, _, _ => fun _ h => nomatch h
  | fuel + 1, off, lfo => by
    rw [twdLoop]
    refine (tryFindLine_post K F off _ _).bind fun l0 h0 => ?_
    obtain ⟨hs, he, hr⟩ := h0
    cases hd : l0.date ts with
    | some d =>
      intro l hl; cases hl
      exact ⟨hs.imp id StartTok.real, he.imp id EndTok.real, hr, by rw [hd]; rfl⟩
    | none =>
      refine Post.ite (fun _ _ h => nomatch h) fun hg => ?_
      refine (twd_post K F ts fwd fuel _ _).imp (fun _ h _ => h ?known) fun r h l hl => ?good
      case known =>
        unfold RangeOK at hr
        cases fwd <;> simp only [Bool.false_eq_true, if_false, if_true] at hg ⊢
        · exact ⟨nofun, fun o ho => by cases ho; omega⟩
        · exact ⟨fun o ho => by cases ho; omega, nofun⟩
      case good =>
        obtain ⟨a, b, c, d⟩ := h l hl
        -- the line feed handed on was scanned and was not the file edge: backwards it is a
        -- start, which also ends a line; forwards an end, which starts the next line
        cases fwd <;> simp only [Bool.false_eq_true, if_false, if_true] at hs he hg a b ⊢
        · exact ⟨a, .inr (b.elim (fun ⟨o, ho, hb⟩ => by
            cases ho; rw [hb]; exact hs.of_none.found_end (by omega)) id), c, d⟩
        · exact ⟨.inr (a.elim (fun ⟨o, ho, ha⟩ => by
            cases ho; rw [ha]; exact he.of_none.found_start (by omega)) id), b, c, d⟩

/-- how `__getitem__` ends: no dated line within the attempts is `TooManyLinesWithoutDate` -/
def fin (r : Option LLine) : Except SeekErr LLine :=
  match r with
  | some l => .ok l
  | none => .error .tooManyUndated

theorem getItem_eq (K : SeekK) (F : FileV) (ts : Nat → Option Int) (off : Nat) :
    getItem K F ts off =
      (tryFindLineWithDate K F ts off none false).bind fun r =>
        match r with
        | some l => .ok l
        | none =>
          (tryFindLineWithDate K F ts (off + 1) (some (off : Int)) true).bind fun r =>
            match r with
            | some l =>
              if l.slf.off = off ∧ !(off < F.len && F.isLF off) then
                match l.elf with
                | .found e => (tryFindLineWithDate K F ts (e + 1).toNat (some e) true).bind fin
                | .edge _ => .error .tooManyUndated
              else .ok l
            | none => .error .tooManyUndated := rfl

theorem getItem_post (K : SeekK) (F : FileV) (ts : Nat → Option Int) (off : Nat) :
    Post (NoAssert (off ≤ F.len)) (GoodLine F ts (RealStart F) (RealEnd F))
      (getItem K F ts off) := by
  rw [getItem_eq]
  refine (noAssert_mono (twd_post K F ts false _ off none) fun _ => ⟨nofun, nofun⟩).bind fun r1 h1 => ?_
  cases r1 with
  | some l1 =>
    obtain ⟨a, b, c, d⟩ := h1 l1 rfl
    exact ⟨a.of_none, b.of_none, c, d⟩
  | none =>
    refine (noAssert_mono (twd_post K F ts true _ (off + 1) (some off)) fun _ =>
      ⟨fun o ho => by cases ho; omega, nofun⟩).bind fun r2 h2 => ?_
    cases r2 with
    | none => exact fun _ h => nomatch h
    | some l2 =>
      obtain ⟨a1, a2, a3, a4⟩ := h2 l2 rfl
      replace a2 := a2.of_none
      refine Post.ite (fun _ => ?_) fun hc => ?_
      · -- what was found is the tail of the line at `off`: its end is where to go on
        cases he : l2.elf with
        | edge _ => exact fun _ h => nomatch h
        | found e =>
          rw [he] at a2 a3
          refine (noAssert_mono (twd_post K F ts true _ _ (some e)) fun _ => ⟨fun o ho => by
            cases ho; unfold RangeOK at a3; simp only [off_found] at a3; omega, nofun⟩).bind
            fun r3 h3 => ?_
          cases r3 with
          | none => exact fun _ h => nomatch h
          | some l3 =>
            obtain ⟨b1, b2, b3, b4⟩ := h3 l3 rfl
            exact ⟨b1.elim (fun ⟨o, ho, hb⟩ => by cases ho; rw [hb]; exact a2.start) id,
              b2.of_none, b3, b4⟩
      · refine ⟨a1.elim (fun ⟨o, ho, ha⟩ => ?_) id, a2, a3, a4⟩
        -- the line starts at the caller's `off`, and the test says `off` is a line feed
        cases ho
        rw [ha] at hc ⊢
        simp only [off_found, true_and, Bool.not_eq_true', Bool.not_eq_false,
          Bool.and_eq_true, decide_eq_true_eq] at hc
        exact .inr ⟨off, rfl, hc.1, hc.2, hc.1⟩

theorem seekerRun_post (K : SeekK) (F : FileV) (ts : Nat → Option Int) (since : Int)
    (pos0 : Nat) :
    Post (· ≠ SeekErr.assertFailed)
      (fun p => p = (pos0 : Int) ∨ ∃ l : LLine, p = l.startOffset ∧ RealStart F l.slf)
      (seekerRun K F ts since pos0) := by
  unfold seekerRun tryFindLineWithDate
  refine ((twd_post K F ts false _ F.len none).imp
    (fun _ he => he ⟨nofun, nofun⟩) fun _ _ => trivial).bind fun _ _ => ?_
  refine Post.ite (fun _ => .inl rfl) fun _ => ?_
  have hb := C04.bisectLoop_post K F ts since (· ≠ SeekErr.assertFailed) (fun l => RealStart F l.slf)
    (fun off ho => (getItem_post K F ts off).imp (fun _ he => he (Nat.le_of_lt ho))
      fun _ h => h.1) (F.len + 1) 0 F.len {} (Nat.le_refl _) (fun _ h => nomatch h)
  cases hr : bisectLoop K F ts since (F.len + 1) 0 F.len {} with
  | error es =>
    obtain ⟨e, st⟩ := es
    have he : e ≠ .assertFailed := hb.of_error hr
    cases e with
    | assertFailed => exact absurd rfl he
    | tooManyUndated => exact Post.ite (fun _ h => nomatch h) fun _ h => nomatch h
    | _ => exact fun h => by cases h
  | ok rs =>
    obtain ⟨r, st⟩ := rs
    have hl := hb.of_ok hr
    dsimp only at hl ⊢
    cases hi : st.lineInfo with
    | some l => exact .inr ⟨l, rfl, hl l hi⟩
    | none => exact fun h => by cases h

theorem RealStart_lineStart {F : FileV} {l : LLine} (h : RealStart F l.slf) :
    IsLineStart F l.startOffset ∧ 0 ≤ l.startOffset ∧ l.startOffset ≤ F.len := by
  obtain ⟨slf, elf⟩ := l
  rcases h with rfl | ⟨i, rfl, h1, h2, _⟩
  · exact ⟨.inl rfl, Int.le_refl _, Int.natCast_nonneg _⟩
  · show _ ∧ (0 : Int) ≤ (i : Int) + 1 ∧ (i : Int) + 1 ≤ F.len
    exact ⟨.inr ⟨i, rfl, h1, h2⟩, by omega, by omega⟩

end SeekShape

/-- only dated lines are returned by `__getitem__` -/
theorem getItem_dated (K : SeekK) (F : FileV) (ts : Nat → Option Int) (off : Nat) (l : LLine)
    (h : getItem K F ts off = .ok l) : (l.date ts).isSome :=
  ((SeekShape.getItem_post K F ts off).of_ok h).2.2.2

/-- `__getitem__` returns lines that start at 0 or right after a line feed of the file
    (holds for every `off`; the bisection only uses `off < F.len`) -/
theorem getItem_lineStart (K : SeekK) (F : FileV) (ts : Nat → Option Int) (off : Nat)
    (l : LLine) (_hoff : off < F.len) (h : getItem K F ts off = .ok l) :
    IsLineStart F l.startOffset ∧ 0 ≤ l.startOffset ∧ l.startOffset ≤ F.len :=
  SeekShape.RealStart_lineStart ((SeekShape.getItem_post K F ts off).of_ok h).1

/-- `apply_to_file` always returns, and leaves the file at 0, at its end, or right after one
    of its line feeds -/
theorem SeekShape.applyToFile_ok (K : SeekK) (F : FileV) (ts : Nat → Option Int) (since : Int) :
    ∃ p, applyToFile K F ts since = .ok p ∧
      (p = 0 ∨ p = F.len ∨ ∃ i, p = i + 1 ∧ i < F.len ∧ F.isLF i = true) := by
  unfold applyToFile
  have hp := SeekShape.seekerRun_post K F ts since 0
  cases hr : seekerRun K F ts since 0 with
  | ok q =>
    refine ⟨_, rfl, ?_⟩
    rcases hp.of_ok hr with hq | ⟨l, hl, hs⟩
    · exact .inl (by rw [hq]; rfl)
    · rcases (SeekShape.RealStart_lineStart hs).1 with h0 | ⟨i, hi, h1, h2⟩
      · exact .inl (by rw [hl, h0]; rfl)
      · exact .inr (.inr ⟨i, by rw [hl, hi]; rfl, h1, h2⟩)
  | error e =>
    cases e with
    | assertFailed => exact absurd rfl (hp.of_error hr)
    | noValidLines | maxLineLen => exact ⟨_, rfl, .inr (.inl rfl)⟩
    | _ => exact ⟨_, rfl, .inl rfl⟩

/-- `_hH`, here and in `C11_position_shape`, is not needed: `applyToFile_ok` holds for every `K` -/
theorem seek_no_assert (K : SeekK) (_hH : 0 < K.H) (F : FileV) (ts : Nat → Option Int)
    (since : Int) : ∃ p, applyToFile K F ts since = .ok p :=
  (SeekShape.applyToFile_ok K F ts since).imp fun _ h => h.1

theorem C11_position_shape (K : SeekK) (_hH : 0 < K.H) (F : FileV) (ts : Nat → Option Int)
    (since : Int) (p : Nat) (h : applyToFile K F ts since = .ok p) :
    p = 0 ∨ p = F.len ∨ ∃ i, p = i + 1 ∧ i < F.len ∧ F.isLF i = true := by
  obtain ⟨q, hq, hs⟩ := SeekShape.applyToFile_ok K F ts since
  cases hq.symm.trans h
  exact hs

end Sk

#print axioms Sk.C11_position_shape
#print axioms Sk.seek_no_assert
#print axioms Sk.getItem_dated
#print axioms Sk.getItem_lineStart
