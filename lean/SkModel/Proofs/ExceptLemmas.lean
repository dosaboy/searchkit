/-
  SkModel.Proofs.ExceptLemmas — the few facts about `Except` computations the proofs use
  (core has lemmas for `ExceptT` only): when a `do` block returns normally or fails, and
  with what; `Post`, the outcome predicate in which the seeker's functions are specified.
-/

namespace Sk

universe u v

variable {ε : Type u} {α β : Type v}

theorem bind_ok (x : Except ε α) (f : α → Except ε β) (b : β) :
    (x >>= f) = Except.ok b ↔ ∃ a, x = Except.ok a ∧ f a = Except.ok b := by
  cases x <;> simp [bind, Except.bind]

theorem bind_error {x : Except ε α} {f : α → Except ε β} {e : ε} :
    (x >>= f) = .error e ↔ x = .error e ∨ ∃ a, x = .ok a ∧ f a = .error e := by
  cases x <;> simp [bind, Except.bind]

theorem pure_ok (a b : α) : (pure a : Except ε α) = Except.ok b ↔ a = b := by
  simp [pure, Except.pure]

theorem ok_bind {x : Except ε α} {a : α} (hx : x = .ok a) (f : α → Except ε β) :
    (x >>= f) = f a := by
  rw [hx]; rfl

theorem error_bind {x : Except ε α} {e : ε} (hx : x = .error e) (f : α → Except ε β) :
    (x >>= f) = .error e := by
  rw [hx]; rfl

def IsOk (x : Except ε α) : Prop := ∃ a, x = .ok a

theorem isOk_pure (a : α) : IsOk (pure a : Except ε α) := ⟨a, rfl⟩

theorem isOk_bind {x : Except ε α} {f : α → Except ε β} (hx : IsOk x) (hf : ∀ a, IsOk (f a)) :
    IsOk (x >>= f) := by
  obtain ⟨a, ha⟩ := hx
  rw [ok_bind ha]
  exact hf a

def Post {ε α : Type} (E : ε → Prop) (P : α → Prop) : Except ε α → Prop
  | .ok a => P a
  | .error e => E e

namespace Post
variable {ε α β : Type} {E E' : ε → Prop} {P P' : α → Prop} {Q : β → Prop} {x : Except ε α}

theorem of_ok {a : α} (h : Post E P x) (hx : x = .ok a) : P a := by rw [hx] at h; exact h

theorem of_error {e : ε} (h : Post E P x) (hx : x = .error e) : E e := by rw [hx] at h; exact h

theorem imp (hE : ∀ e, E e → E' e) (hP : ∀ a, P a → P' a) (h : Post E P x) : Post E' P' x := by
  cases x with
  | ok a => exact hP a h
  | error e => exact hE e h

theorem bind {f : α → Except ε β} (h : Post E P x) (hf : ∀ a, P a → Post E Q (f a)) :
    Post E Q (x.bind f) := by
  cases x with
  | ok a => exact hf a h
  | error e => exact h

theorem ite {c : Prop} [Decidable c] {y : Except ε α} (hx : c → Post E P x)
    (hy : ¬c → Post E P y) : Post E P (if c then x else y) := by
  by_cases h : c
  · rw [if_pos h]; exact hx h
  · rw [if_neg h]; exact hy h

end Post

end Sk
