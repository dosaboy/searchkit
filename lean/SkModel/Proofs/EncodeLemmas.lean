/-
  SkModel.Proofs.EncodeLemmas — the index encoding of results (`SkModel.Encode`) through the
  de-duplicating store.  An exported part / result stands for a captured one in a store
  (`PartRel`, `ResRel`) when the plain fields agree and every exported index is sound for the
  captured value (`Store.Sound`); both relations are kept by every later store and give the
  read side (`ResRel.readback`).
-/
import SkModel.Encode
import SkModel.Proofs.StoreInv

namespace Sk.Enc
open StoreInv

inductive All₂ {α β : Type} (R : α → β → Prop) : List α → List β → Prop
  | nil : All₂ R [] []
  | cons {a b as bs} : R a b → All₂ R as bs → All₂ R (a :: as) (b :: bs)

theorem All₂.length_eq {α β : Type} {R : α → β → Prop} {as : List α} {bs : List β}
    (h : All₂ R as bs) : as.length = bs.length := by
  induction h with
  | nil => rfl
  | cons _ _ ih => simp [ih]

theorem All₂.imp {α β : Type} {R S : α → β → Prop} (hRS : ∀ a b, R a b → S a b)
    {as : List α} {bs : List β} (h : All₂ R as bs) : All₂ S as bs := by
  induction h with
  | nil => exact .nil
  | cons h _ ih => exact .cons (hRS _ _ h) ih

theorem All₂.get {α β : Type} {R : α → β → Prop} {as : List α} {bs : List β}
    (h : All₂ R as bs) : ∀ k (hk : k < as.length) (hk' : k < bs.length), R as[k] bs[k] := by
  induction h with
  | nil => intro k hk; simp at hk
  | cons h _ ih =>
    intro k hk hk'
    cases k with
    | zero => simpa using h
    | succ k => simpa using ih k (by simpa using hk) (by simpa using hk')

theorem All₂.of_getElem? {α β : Type} {R : α → β → Prop} : ∀ {as : List α} {bs : List β},
    as.length = bs.length → (∀ (k : Nat) a b, as[k]? = some a → bs[k]? = some b → R a b) →
    All₂ R as bs
  | [], [], _, _ => .nil
  | [], _ :: _, h, _ => by cases h
  | _ :: _, [], h, _ => by cases h
  | a :: as, b :: bs, h, H =>
    .cons (H 0 a b rfl rfl) (of_getElem? (Nat.succ.inj h) fun k => H (k + 1))

theorem All₂.find? {α β : Type} {R : α → β → Prop} {p : α → Bool} {q : β → Bool}
    (hpq : ∀ a b, R a b → p a = q b) {as : List α} {bs : List β} (h : All₂ R as bs) :
    (as.find? p = none ∧ bs.find? q = none) ∨
    ∃ a b, as.find? p = some a ∧ bs.find? q = some b ∧ R a b := by
  induction h with
  | nil => exact .inl ⟨rfl, rfl⟩
  | @cons a b as bs hab _ ih =>
    rw [List.find?_cons, List.find?_cons, hpq a b hab]
    cases q b with
    | true => exact .inr ⟨a, b, rfl, rfl, hab⟩
    | false => exact ih

theorem All₂.map_eq {α β γ : Type} {R : α → β → Prop} {f : α → γ} {g : β → γ}
    (hfg : ∀ a b, R a b → f a = g b) {as : List α} {bs : List β} (h : All₂ R as bs) :
    as.map f = bs.map g := by
  induction h with
  | nil => rfl
  | cons h _ ih => simp [hfg _ _ h, ih]

def PartRel (st : Store) (p : Part) (e : EPart) : Prop :=
  e.idx = p.idx ∧ e.name = p.name ∧ st.Sound p.val e.sid

theorem PartRel.mono {st st' : Store} (h : st.data <+: st'.data) {p e} (hr : PartRel st p e) :
    PartRel st' p e :=
  ⟨hr.1, hr.2.1, hr.2.2.mono h⟩

def ResRel (st : Store) (seqVal : Nat → Val) (r : Res) (e : ERes) : Prop :=
  e.ln = r.ln ∧ e.sec = r.sec ∧ e.fields = r.fields ∧
  All₂ (PartRel st) r.parts e.parts ∧
  st.Sound r.tag e.tagIdx ∧ st.Sound (r.seqId.map seqVal) e.seqIdx

theorem ResRel.mono {st st' : Store} (h : st.data <+: st'.data) {seqVal r e}
    (hr : ResRel st seqVal r e) : ResRel st' seqVal r e :=
  let ⟨h1, h2, h3, hp, ht, hs⟩ := hr
  ⟨h1, h2, h3, hp.imp fun _ _ => PartRel.mono h, ht.mono h, hs.mono h⟩

/-- `_get_store_id` followed by the store lookup, for any way `κ` of recognising the part
    by its group index and name -/
theorem parts_find {st : Store} {ps : List Part} {es : List EPart}
    (h : All₂ (PartRel st) ps es) (κ : Nat → Option String → Bool) :
    ((es.find? (fun p => κ p.idx p.name && p.sid.isSome)).bind (·.sid)).bind st.get =
      (ps.find? (fun p => κ p.idx p.name && p.val.isSome)).bind (·.val) := by
  have hpq : ∀ (a : Part) (b : EPart), PartRel st a b →
      (κ a.idx a.name && a.val.isSome) = (κ b.idx b.name && b.sid.isSome) := by
    intro a b hab
    rw [hab.1, hab.2.1, hab.2.2.isSome]
  rcases h.find? hpq with ⟨h1, h2⟩ | ⟨a, b, h1, h2, hab⟩
  · simp [h1, h2]
  · simp only [h1, h2, Option.bind_some]
    exact hab.2.2.bind_get

/-- everything C05 says about one result, from `ResRel` -/
theorem ResRel.readback {st : Store} {seqVal r e} (hr : ResRel st seqVal r e) :
    e.ln = r.ln ∧ e.sec = r.sec ∧ e.fields = r.fields ∧
    (∀ i, e.getIdx st i = r.getIdx i) ∧
    (∀ nm, e.getName st nm = r.getName nm) ∧
    e.iter st = r.iter ∧
    e.tag st = r.tag ∧
    e.seqId st = r.seqId.map seqVal := by
  obtain ⟨h1, h2, h3, hp, ht, hs⟩ := hr
  refine ⟨h1, h2, h3, fun i => parts_find hp fun j _ => j == i,
    fun nm => parts_find hp fun _ n => n == some nm,
    (hp.map_eq fun _ _ hab => hab.2.2.bind_get.symm).symm, ht.bind_get, hs.bind_get⟩

variable {B : Nat} {pre : Bool} {sup : Nat → Nat}

theorem encodeParts_spec (hB : 0 < B) (hsup : BlocksDisjoint sup B)
    (tag seq : Option Val) :
    ∀ (ps : List Part) {st : Store}, Store.Reach B pre sup st →
      Store.Ok (encodeParts st sup tag seq ps) fun st' es =>
        Store.Reach B pre sup st' ∧ st.data <+: st'.data ∧ All₂ (PartRel st') ps es
  | [], _, hr => .pure ⟨hr, List.prefix_refl _, .nil⟩
  | p :: ps, _, hr =>
    (hr.add_spec hB hsup tag seq p.val).bind fun _ _ ⟨hr1, x1, hv, _, _⟩ =>
    (encodeParts_spec hB hsup tag seq ps hr1).bind fun _ _ ⟨hr2, x2, hrel⟩ =>
    .pure ⟨hr2, x1.trans x2, .cons ⟨rfl, rfl, hv.mono x2⟩ hrel⟩

theorem encodeRes_spec (hB : 0 < B) (hsup : BlocksDisjoint sup B)
    (seqVal : Nat → Val) (r : Res) {st : Store} (hr : Store.Reach B pre sup st) :
    Store.Ok (encodeRes st sup r (r.seqId.map seqVal)) fun st' e =>
      Store.Reach B pre sup st' ∧ st.data <+: st'.data ∧ ResRel st' seqVal r e :=
  (encodeParts_spec hB hsup _ _ r.parts hr).bind fun _ _ ⟨hr1, x1, hrel⟩ =>
  (hr1.add_spec hB hsup r.tag _ none).bind fun _ _ ⟨hr2, x2, _, ht, hs⟩ =>
  .pure ⟨hr2, x1.trans x2, rfl, rfl, rfl, hrel.imp fun _ _ => PartRel.mono x2, ht, hs⟩

theorem encodeAll_spec (hB : 0 < B) (hsup : BlocksDisjoint sup B)
    (seqVal : Nat → Val) :
    ∀ (rs : List Res) {st : Store}, Store.Reach B pre sup st →
      Store.Ok (encodeAll st sup seqVal rs) fun st' es =>
        Store.Reach B pre sup st' ∧ st.data <+: st'.data ∧ All₂ (ResRel st' seqVal) rs es
  | [], _, hr => .pure ⟨hr, List.prefix_refl _, .nil⟩
  | r :: rs, _, hr =>
    (encodeRes_spec hB hsup seqVal r hr).bind fun _ _ ⟨hr1, x1, hrel1⟩ =>
    (encodeAll_spec hB hsup seqVal rs hr1).bind fun _ _ ⟨hr2, x2, hrel⟩ =>
    .pure ⟨hr2, x1.trans x2, .cons (hrel1.mono x2) hrel⟩

theorem encodeAll_later (hB : 0 < B) (hsup : BlocksDisjoint sup B) {seqVal : Nat → Val}
    {rs : List Res} {st st' : Store} {es : List ERes} (hr : Store.Reach B pre sup st)
    (h : encodeAll st sup seqVal rs = .ok (st', es)) :
    Store.Reach B pre sup st' ∧ ∀ {st''}, st'.data <+: st''.data → All₂ (ResRel st'' seqVal) rs es :=
  let ⟨hr', _, hrel⟩ := (encodeAll_spec hB hsup seqVal rs hr).of_eq h
  ⟨hr', fun hx => hrel.imp fun _ _ => ResRel.mono hx⟩

end Sk.Enc
