/-
  SkModel.Proofs.ParInvProgress — liveness of the concurrent store.  No deadlock: in every state
  satisfying the invariants, a worker that is not `done` can move itself (lock free) or the lock
  holder can move, and that step is productive.  Progress: a step of worker `w` never increases
  the measure `wm s w`, leaves that of every other worker alone, and lowers it when productive.
-/
import SkModel.Proofs.ParInvLocal
import SkModel.Proofs.Trans

namespace Sk.Par

/-- steps that make progress: everything except reads/writes of the shared reverse maps (which
    `sync` may repeat at will in the model) and re-writing an item already synced -/
def productive (s : PState) : PLbl → Prop
  | .syncRevRead _ _ _ _ => False
  | .syncRevWrite _ _ _ _ => False
  | .syncData w idx v => (idx, v) ∉ (s.ws w).synced
  | _ => True

variable {B : Nat} {progs : Nat → List (Ns × Option Val)} {s : PState}

theorem holder_enabled (h1 : Inv1 B s) {h : Nat} (hl : s.lock = some h) :
    ∃ l, (pstep s l).isSome = true ∧ actor l = h ∧ productive s l := by
  have hat := h1.lockAt h
  cases hpc : (s.ws h).pc with
  | locked | read1 => exact ⟨.readPtr h s.ptr, by simp [pstep, hl, hpc], rfl, trivial⟩
  | read2 => exact ⟨.writePtr h ((s.ws h).r2 + s.B), by simp [pstep, hl, hpc], rfl, trivial⟩
  | wrote | sync => exact ⟨.release h, by simp [pstep, hl, hpc], rfl, trivial⟩
  | run | done => simp [LockAt, hpc, hl] at hat

theorem free_enabled (hB : 0 < B) (h1 : Inv1 B s) (h2 : Inv2 B s)
    (hl : s.lock = none) {w : Nat} (hnd : (s.ws w).pc ≠ .done) :
    ∃ l, (pstep s l).isSome = true ∧ actor l = w ∧ productive s l := by
  have hat := h1.lockAt w
  cases hpc : (s.ws w).pc with
  | locked | read1 | read2 | wrote => simp [LockAt, hpc, hl] at hat
  | done => exact absurd hpc hnd
  | run =>
    cases hops : (s.ws w).ops with
    | nil => exact ⟨.syncStart w, by simp [pstep, hpc, hops], rfl, trivial⟩
    | cons op rest =>
      cases hr : (s.ws w).localReady with
      | true =>
        obtain ⟨st', r, e, -⟩ := local_spec hB h1 h2 w hops hr
        exact ⟨.local_ w, by simp [pstep, hpc, hr, hops, e], rfl, trivial⟩
      | false =>
        exact ⟨.acquire w, by simp [pstep, hpc, hl, hr, hops], rfl, trivial⟩
  | sync =>
    cases hall : (s.ws w).st.data.all (fun it => (s.ws w).synced.contains it) with
    | true => exact ⟨.syncDone w, by simp only [pstep, hpc, hl, hall]; simp, rfl, trivial⟩
    | false =>
      obtain ⟨⟨idx, v⟩, hit, hns⟩ := List.all_eq_false.mp hall
      exact ⟨.syncData w idx v, by simp [pstep, hpc, hit], rfl, by simpa [productive] using hns⟩

theorem enabled {B : Nat} {s : PState} (hB : 0 < B) (h1 : Inv1 B s) (h2 : Inv2 B s)
    {w : Nat} (hnd : (s.ws w).pc ≠ .done) :
    ∃ l, (pstep s l).isSome = true ∧ actor l = s.lock.getD w ∧ productive s l := by
  cases hl : s.lock with
  | none => exact free_enabled hB h1 h2 hl hnd
  | some h => exact holder_enabled h1 hl

def unsynced (p : PW) : Nat := (p.st.data.filter (fun it => !p.synced.contains it)).length

theorem unsynced_le (p : PW) : unsynced p ≤ p.st.data.length := List.length_filter_le _ _

theorem unsynced_congr {p p' : PW} (h1 : p'.st = p.st) (h2 : p'.synced = p.synced) :
    unsynced p' = unsynced p := by unfold unsynced; rw [h1, h2]

theorem unsynced_ctl (p : PW) (pc : PPc) (r1 r2 : Nat) :
    unsynced { p with pc := pc, r1 := r1, r2 := r2 } = unsynced p := unsynced_congr rfl rfl

/-- Marking `it` as synced lowers `unsynced` by the number of times `it` occurs among the items
    still unsynced (0 if it had been written before).  For the `syncData` case of `wm_actor`,
    where that number is positive exactly when the step is productive. -/
theorem unsynced_cons (p : PW) (it : Nat × Val) :
    unsynced { p with synced := it :: p.synced } +
      (p.st.data.filter (fun x => !p.synced.contains x)).count it = unsynced p := by
  have h := List.length_eq_countP_add_countP (· == it)
    (l := p.st.data.filter (fun x => !p.synced.contains x))
  rw [List.countP_eq_length_filter (p := fun a => decide ¬_), List.filter_filter] at h
  have e : (fun x => !(it :: p.synced).contains x) =
      fun x => (decide ¬(x == it) = true) && !p.synced.contains x := by
    funext x; simp
  simp only [unsynced, List.count, e]
  omega

def wm (s : PState) (w : Nat) : Nat :=
  match (s.ws w).pc with
  | .done => 0
  | .sync => 1 + unsynced (s.ws w) + (if s.lock = some w then 1 else 0)
  | .run => 3 + (s.ws w).st.data.length + 8 * (s.ws w).ops.length +
      5 * ((s.ws w).st.nblocks + 1 - (s.ws w).grants.length)
  | .locked => 3 + (s.ws w).st.data.length + 8 * (s.ws w).ops.length + 4
  | .read1 => 3 + (s.ws w).st.data.length + 8 * (s.ws w).ops.length + 3
  | .read2 => 3 + (s.ws w).st.data.length + 8 * (s.ws w).ops.length + 2
  | .wrote => 3 + (s.ws w).st.data.length + 8 * (s.ws w).ops.length + 1

theorem wm_eq_zero (s : PState) (w : Nat) : wm s w = 0 ↔ (s.ws w).pc = .done := by
  unfold wm
  cases (s.ws w).pc <;> simp <;> omega

theorem wm_other {l : PLbl} {s' : PState} (hs : Step s l s') {x : Nat}
    (hx : x ≠ actor l) : wm s' x = wm s x := by
  obtain ⟨hw, hl, -⟩ := hs.others hx
  simp only [wm, hw, hl]

/-- A step never increases the measure of its worker, and a productive step decreases it.  The
    constants of `wm` are chosen for this: a worker with no block in reserve carries 5, which the
    five steps of `preallocate` (`acquire` … `release`) count down; a micro-op (8) pays for one new
    item (1) and for using up the reserve (5); and `3 + data.length` covers entering `sync` with
    everything unsynced and the lock held (`2 + data.length`). -/
theorem wm_actor {l : PLbl} {s' : PState} (hB : 0 < B) (h : Inv B progs s) (hs : Step s l s') :
    wm s' (actor l) ≤ wm s (actor l) ∧ (productive s l → wm s' (actor l) < wm s (actor l)) := by
  have strict : ∀ {a b : Nat} {P : Prop}, a < b → a ≤ b ∧ (P → a < b) :=
    fun h => ⟨Nat.le_of_lt h, fun _ => h⟩
  cases hs <;> dsimp only [actor]
  case local_ w ns v rest st' i hpc hready hops hadd =>
    obtain ⟨-, -, -, -, hge, hlen⟩ := (local_spec hB h.i1 h.i2 w hops hready).of_eq hadd
    have := (h.winv w).gl_le
    refine strict ?_
    simp only [wm, updW_same, hpc, hops, List.length_cons]
    omega
  case acquireSync w hlock hpc hops =>
    have := unsynced_le (s.ws w)
    refine strict ?_
    simp only [wm, updW_same, hpc, if_true, unsynced_ctl]
    omega
  case syncStart w hpc hops =>
    have := unsynced_le (s.ws w)
    refine strict ?_
    simp only [wm, updW_same, hpc, unsynced_ctl]
    split <;> omega
  case acquireBlk w hlock hpc hops hnr =>
    have := not_ready hops hnr
    refine strict ?_
    simp only [wm, updW_same, hpc]
    omega
  case read1 w hlock hpc | read2 w hlock hpc | writePtr w hlock hpc | syncDone w hpc hlock hall =>
    exact strict (by simp only [wm, updW_same, hpc]; omega)
  case releaseBlk w hlock hpc =>
    have hwr : (s.ws w).st.nblocks < (s.ws w).grants.length := by
      simpa [BookAt, hpc] using (h.winv w).book
    refine strict ?_
    simp only [wm, updW_same, hpc]
    omega
  case releaseSync w hlock hpc => exact strict (by simp [wm, hpc, hlock])
  case syncData w idx v hpc hmem =>
    have hc := unsynced_cons (s.ws w) (idx, v)
    simp only [wm, updW_same, hpc, productive] at hc ⊢
    refine ⟨by omega, fun hp => ?_⟩
    have : 0 < ((s.ws w).st.data.filter (fun x => !(s.ws w).synced.contains x)).count (idx, v) :=
      List.count_pos_iff.mpr (List.mem_filter.mpr ⟨hmem, by simpa using hp⟩)
    omega
  case syncRevRead | syncRevWrite => exact ⟨Nat.le_refl _, fun hp => hp.elim⟩

def total (W : List Nat) (s : PState) : Nat := (W.map (wm s)).sum

theorem total_step {l : PLbl} {s' : PState} (hB : 0 < B) (h : Inv B progs s) (hs : Step s l s')
    (W : List Nat) :
    total W s' ≤ total W s ∧ (productive s l → actor l ∈ W → total W s' < total W s) := by
  obtain ⟨hle, hlt⟩ := wm_actor hB h hs
  have hall : ∀ x, x ∈ W → wm s' x ≤ wm s x := fun x _ => by
    by_cases hx : x = actor l
    · subst hx; exact hle
    · rw [wm_other hs hx]; exact Nat.le_refl _
  exact ⟨LTS.sum_map_le hall, fun hp ha => LTS.sum_map_lt hall ha (hlt hp)⟩

theorem total_eq_zero (W : List Nat) (s : PState) :
    total W s = 0 ↔ ∀ w, w ∈ W → (s.ws w).pc = .done := by
  simp [total, List.sum_eq_zero_iff_forall_eq_nat, wm_eq_zero]

instance (s : PState) (l : PLbl) : Decidable (productive s l) := by
  cases l <;> simp only [productive] <;> infer_instance

/-- number of productive steps of workers in `W` along a run.  A counted run of its own, since
    `productive` looks at the state a step starts from and `LTS.run_count` counts by label only. -/
def prodSteps (W : List Nat) : PState → List PLbl → Nat
  | _, [] => 0
  | s, l :: ls =>
    match pstep s l with
    | some s' => (if productive s l ∧ actor l ∈ W then 1 else 0) + prodSteps W s' ls
    | none => 0

end Sk.Par
