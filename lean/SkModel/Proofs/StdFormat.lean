/-
  SkModel.Proofs.StdFormat — the standard timestamp format "YYYY-MM-DD HH:MM:SS" of SkModel.StdTs:
  what `fmtStd` writes, `parseStd` reads back whatever follows it, and what `stdTs` accepts is a
  valid date-time.  C04 and C16 on bytes (`Theorems/C04Std`, `Theorems/C16Std`) rest on it.
-/
import SkModel.StdTs
import SkModel.Proofs.Calendar

namespace Sk

/-- all fields of `c` fit their zero-padded widths (true of every valid date-time) -/
def Civil.fits (c : Civil) : Prop := c.y ≤ 9999 ∧ c.mo ≤ 99 ∧ c.d ≤ 99 ∧ c.h ≤ 99 ∧ c.mi ≤ 99 ∧ c.s ≤ 99

namespace StdLog

theorem daysInMonth_le (y m : Nat) : daysInMonth y m ≤ 31 := by
  unfold daysInMonth
  split <;> (try split) <;> omega

theorem takeDigits_append (ds rest : List Nat) (h : ds.all isDigitB = true) :
    takeDigits ds.length (ds ++ rest) = some (digitsVal ds, rest) := by
  simp [takeDigits, h]

theorem isDigitB_digit (x : Nat) : isDigitB (48 + x % 10) = true := by
  simp [isDigitB]
  omega

theorem takeDigits_pad2 (n : Nat) (h : n ≤ 99) (rest : List Nat) :
    takeDigits 2 (pad2 n ++ rest) = some (n, rest) := by
  have := takeDigits_append (pad2 n) rest (by simp [pad2, isDigitB_digit])
  rwa [show digitsVal (pad2 n) = n by simp [digitsVal, pad2]; omega] at this

theorem takeDigits_pad4 (n : Nat) (h : n ≤ 9999) (rest : List Nat) :
    takeDigits 4 (pad4 n ++ rest) = some (n, rest) := by
  have := takeDigits_append (pad4 n) rest (by simp [pad4, isDigitB_digit])
  rwa [show digitsVal (pad4 n) = n by simp [digitsVal, pad4]; omega] at this

theorem skipSeps_pad2 (n : Nat) (rest : List Nat) :
    skipSeps (pad2 n ++ rest) = pad2 n ++ rest := by
  have : isSepB (48 + n / 10 % 10) = false := by
    simp [isSepB]; omega
  simp [pad2, skipSeps, this]

-- `StdLog` holds the auxiliary lemmas; the theorems below are named in `Sk` elsewhere
-- (`Sk.parseStd_fmtStd`, `Sk.stdTs_fmtStd`, .. in `lean/obligations.json`)
end StdLog

open StdLog
theorem Civil.fits_of_valid (c : Civil) (h : c.valid = true) : c.fits := by
  have := (Cal.valid_iff c).1 h
  have := daysInMonth_le c.y c.mo
  unfold Civil.fits
  omega

/-- writing then reading a timestamp: whatever follows it -/
theorem parseStd_fmtStd (c : Civil) (h : c.fits) (rest : List Nat) :
    parseStd (fmtStd c ++ rest) = some c := by
  obtain ⟨h1, h2, h3, h4, h5, h6⟩ := h
  have e : fmtStd c ++ rest = pad4 c.y ++ (45 :: (pad2 c.mo ++ (45 :: (pad2 c.d ++ (32 ::
      (pad2 c.h ++ (58 :: (pad2 c.mi ++ (58 :: (pad2 c.s ++ rest)))))))))) := by
    simp [fmtStd, List.append_assoc]
  rw [e]
  unfold parseStd
  simp [takeDigits_pad4 _ h1, takeDigits_pad2 _ h2, takeDigits_pad2 _ h3, takeDigits_pad2 _ h4,
    takeDigits_pad2 _ h5, takeDigits_pad2 _ h6, expectB, skipSeps_pad2, isSepB]

theorem StdLog.fmtStd_length (c : Civil) : (fmtStd c).length = 19 := by
  simp [fmtStd, pad2, pad4]

/-- the window at the start of a line written with a valid timestamp yields that timestamp -/
theorem stdTs_fmtStd (c : Civil) (h : c.valid = true) (pre rest : List Nat) (W : Nat) (hW : 19 ≤ W) :
    stdTs (pre ++ fmtStd c ++ rest) W pre.length = some c.toSeconds := by
  unfold stdTs
  have e : ((pre ++ fmtStd c ++ rest).drop pre.length).take W
      = fmtStd c ++ rest.take (W - 19) := by
    rw [List.append_assoc, List.drop_left, List.take_append, fmtStd_length,
      List.take_of_length_le (by rw [fmtStd_length]; exact hW)]
  rw [e, parseStd_fmtStd c (Civil.fits_of_valid c h)]
  simp [h]

/-- what the parser accepts, Python's `datetime` accepts too: a result is always valid -/
theorem stdTs_some_valid (bs : List Nat) (W off : Nat) (t : Int) (h : stdTs bs W off = some t) :
    ∃ c : Civil, c.valid = true ∧ c.toSeconds = t ∧ parseStd ((bs.drop off).take W) = some c := by
  unfold stdTs at h
  cases hp : parseStd ((bs.drop off).take W) with
  | none => rw [hp] at h; cases h
  | some c =>
    rw [hp] at h
    by_cases hv : c.valid = true
    · simp [hv] at h
      exact ⟨c, hv, h, rfl⟩
    · simp [hv] at h

end Sk

#print axioms Sk.Civil.fits_of_valid
#print axioms Sk.parseStd_fmtStd
#print axioms Sk.stdTs_fmtStd
#print axioms Sk.stdTs_some_valid
