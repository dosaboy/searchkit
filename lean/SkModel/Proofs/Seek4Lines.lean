/-
  SkModel.Proofs.Seek4Lines — the lines a reader sees, for C04: line starts (`IsStart`) against
  `Spec.lineStart`, ranges of undated lines (`Und`), and what the two executable bounds
  `Spec.longestLine` and `Spec.longestUndatedRun` say about every line and every run of
  undated lines.

  H1 .. H4 in the seeker's files are the fields of `C04Hyps` (Theorems/C04), not the numbering of
  the plan in DESIGN.md section 4 (which has another H2, another H4 and an H5): H1 `mono` (dated
  lines are in time order), H2 `runs` (twice the longest run of undated lines, plus 4, is within
  the fallback limit `K.ATT`; the proofs use only `run + 1 ≤ K.ATT`), H3 `short` (every line is
  within `(K.EXP - 1) * K.H` bytes), H4 `tsShape` (a dated offset lies inside the file and is not
  a line feed).
-/
import SkModel.Proofs.LineFeeds

namespace Sk.C04

/-- `s` is the first byte of a line a reader sees (`s ∈ Spec.lineStarts F`) -/
def IsStart (F : FileV) (s : Nat) : Prop := s < F.len ∧ (s = 0 ∨ F.isLF (s - 1) = true)

theorem mem_lineStarts (F : FileV) (s : Nat) : s ∈ Spec.lineStarts F ↔ IsStart F s := by
  simp [Spec.lineStarts, IsStart, List.mem_filter, List.mem_range]

/-- no line that starts in `[a, b)` is dated -/
def Und (F : FileV) (ts : Nat → Option Int) (a b : Nat) : Prop :=
  ∀ s, a ≤ s → s < b → IsStart F s → ts s = none

/-- H4 in the form the proof uses: empty lines and the position `len` are undated -/
def TsOk (F : FileV) (ts : Nat → Option Int) : Prop :=
  (∀ s, IsStart F s → F.isLF s = true → ts s = none) ∧ ts F.len = none

theorem tsOk_of_shape (F : FileV) (ts : Nat → Option Int)
    (h : ∀ o d, ts o = some d → o < F.len ∧ F.isLF o = false) : TsOk F ts := by
  refine ⟨fun s _ hlf => ?_, ?_⟩
  · cases hd : ts s with
    | none => rfl
    | some d => have := (h s d hd).2; rw [hlf] at this; cases this
  · cases hd : ts F.len with
    | none => rfl
    | some d => have := (h _ d hd).1; omega

variable {F : FileV} {ts : Nat → Option Int}

theorem TsOk.lt_len (hT : TsOk F ts) {s : Nat} {d : Int} (hd : ts s = some d) (hs : s ≤ F.len) :
    s < F.len :=
  Nat.lt_of_le_of_ne hs fun h => by rw [h, hT.2] at hd; cases hd

theorem Und.append {a b c : Nat} (h1 : Und F ts a b) (h2 : Und F ts b c) : Und F ts a c :=
  fun s ha hc hs => if h : s < b then h1 s ha h hs else h2 s (by omega) hc hs

theorem Und.mono {a b a' b' : Nat} (h : Und F ts a b) (ha : a ≤ a') (hb : b' ≤ b) :
    Und F ts a' b' :=
  fun s h1 h2 hs => h s (by omega) (by omega) hs

theorem Und.single {s : Nat} (h : ts s = none) : Und F ts s (s + 1) :=
  fun x h1 h2 _ => by rw [show x = s by omega]; exact h

theorem Und.not_dated {a b d : Nat} (h : Und F ts a b) (hd : IsStart F d)
    (hs : (ts d).isSome = true) (h1 : a ≤ d) (h2 : d < b) : False := by
  rw [h d h1 h2 hd] at hs
  cases hs

theorem IsStart.boundary {s : Nat} (hs : IsStart F s) : Spec.Boundary F s :=
  hs.2.imp_right fun h => ⟨by have := hs.1; omega, h⟩

theorem start_le_lineStart (F : FileV) (s o : Nat) (hs : IsStart F s) (h : s ≤ o) :
    s ≤ Spec.lineStart F o :=
  Spec.boundary_le_lineStart F s o hs.boundary h

theorem lineStart_isStart (F : FileV) (o : Nat) (ho : o < F.len) :
    IsStart F (Spec.lineStart F o) :=
  ⟨by have := Spec.lineStart_le F o; omega, (Spec.lineStart_props F o).1.imp_right And.right⟩

theorem lineStart_self (F : FileV) (s : Nat) (h : IsStart F s) : Spec.lineStart F s = s := by
  have := start_le_lineStart F s s h (Nat.le_refl _)
  have := Spec.lineStart_le F s
  omega

/-- vacuous: no line starts in `(lineStart F o, lineEnd F o]` -/
theorem und_in_line (o : Nat) : Und F ts (Spec.lineStart F o + 1) (Spec.lineEnd F o + 1) := by
  intro s h1 h2 hs
  rcases hs.2 with h | h
  · omega
  · have hlf : s - 1 < F.len ∧ F.isLF (s - 1) = true := ⟨by have := hs.1; omega, h⟩
    by_cases hso : s - 1 < o
    · exact absurd hlf ((Spec.lineStart_props F o).2 (s - 1) (by omega) hso)
    · exact absurd hlf ((Spec.lineEnd_props F o).2 (s - 1) (by omega) (by omega))

theorem foldl_snd_le {α : Type} (f : Nat × Nat → α → Nat × Nat)
    (hf : ∀ acc x, acc.2 ≤ (f acc x).2) :
    ∀ (l : List α) (acc : Nat × Nat), acc.2 ≤ (l.foldl f acc).2
  | [], _ => Nat.le_refl _
  | x :: l, acc => Nat.le_trans (hf acc x) (foldl_snd_le f hf l _)

theorem foldl_fst_le_snd {α : Type} (f : Nat × Nat → α → Nat × Nat)
    (hf : ∀ acc x, (f acc x).1 ≤ (f acc x).2) :
    ∀ (l : List α) (acc : Nat × Nat), acc.1 ≤ acc.2 → (l.foldl f acc).1 ≤ (l.foldl f acc).2
  | [], _, h => h
  | x :: l, acc, _ => foldl_fst_le_snd f hf l _ (hf acc x)

/-- the step of `Spec.longestLine` (running length of the line, longest line so far);
    `llAcc F n` is its fold over the first `n` positions -/
def llStep (F : FileV) (acc : Nat × Nat) (i : Nat) : Nat × Nat :=
  if i < F.len && F.isLF i then (0, max acc.2 acc.1)
  else if i = F.len then (0, max acc.2 acc.1) else (acc.1 + 1, acc.2)

def llAcc (F : FileV) (n : Nat) : Nat × Nat := (List.range n).foldl (llStep F) (0, 0)

theorem llAcc_succ (F : FileV) (n : Nat) : llAcc F (n + 1) = llStep F (llAcc F n) n := by
  unfold llAcc
  rw [List.range_succ, List.foldl_append]
  rfl

theorem llStep_snd_le (F : FileV) (acc : Nat × Nat) (i : Nat) : acc.2 ≤ (llStep F acc i).2 := by
  unfold llStep
  split
  · exact Nat.le_max_left ..
  · split
    · exact Nat.le_max_left ..
    · exact Nat.le_refl _

theorem llAcc_fst (F : FileV) (n : Nat) (hn : n ≤ F.len) :
    (llAcc F n).1 = n - Spec.lineStart F n := by
  induction n with
  | zero => rfl
  | succ n ih =>
    rw [llAcc_succ, Spec.lineStart_succ]
    unfold llStep
    have := Spec.lineStart_le F n
    split
    · simp only []; omega
    · rw [if_neg (by omega), ih (by omega)]
      simp only []; omega

/-- H3 in usable form -/
theorem short_line (F : FileV) (o : Nat) (ho : o ≤ F.len) :
    Spec.lineEnd F o - Spec.lineStart F o ≤ Spec.longestLine F := by
  have hle := Spec.le_lineEnd F o ho
  -- at the end of the line the running length enters the maximum
  have hend : (llAcc F (Spec.lineEnd F o)).1 ≤ (llAcc F (Spec.lineEnd F o + 1)).2 := by
    rw [llAcc_succ]
    unfold llStep
    split
    · exact Nat.le_max_right ..
    · rename_i hc
      rw [if_pos (Nat.le_antisymm hle.2 (Nat.le_of_not_lt fun hlt => hc (by
        simp [hlt, (Spec.lineEnd_props F o).1 hlt])))]
      exact Nat.le_max_right ..
  have hmono : (llAcc F (Spec.lineEnd F o + 1)).2 ≤ Spec.longestLine F := by
    obtain ⟨k, hk⟩ : ∃ k, F.len + 1 = Spec.lineEnd F o + 1 + k :=
      ⟨F.len - Spec.lineEnd F o, by omega⟩
    show _ ≤ ((List.range (F.len + 1)).foldl (llStep F) (0, 0)).2
    rw [hk, List.range_add, List.foldl_append]
    exact foldl_snd_le _ (llStep_snd_le F) _ _
  rw [llAcc_fst F _ hle.2, Spec.lineStart_lineEnd F o ho] at hend
  omega

/-- one step of `Spec.longestUndatedRun`, on the timestamp of the line -/
def runStep (acc : Nat × Nat) (o : Option Int) : Nat × Nat :=
  if o.isSome then (0, acc.2) else (acc.1 + 1, max acc.2 (acc.1 + 1))

theorem runStep_snd_le (acc : Nat × Nat) (o : Option Int) : acc.2 ≤ (runStep acc o).2 := by
  unfold runStep
  split
  · exact Nat.le_refl _
  · exact Nat.le_max_left ..

theorem runStep_fst_le_snd (acc : Nat × Nat) (o : Option Int) :
    (runStep acc o).1 ≤ (runStep acc o).2 := by
  unfold runStep
  split
  · exact Nat.zero_le _
  · exact Nat.le_max_right ..

theorem run_prefix_le (os₁ os₂ : List (Option Int)) :
    (os₁.foldl runStep (0, 0)).1 ≤ ((os₁ ++ os₂).foldl runStep (0, 0)).2 := by
  rw [List.foldl_append]
  exact Nat.le_trans (foldl_fst_le_snd _ runStep_fst_le_snd _ _ (Nat.le_refl _))
    (foldl_snd_le _ runStep_snd_le _ _)

theorem longestUndatedRun_eq (F : FileV) (ts : Nat → Option Int) :
    Spec.longestUndatedRun F ts = (((Spec.lineStarts F).map ts).foldl runStep (0, 0)).2 := by
  rw [List.foldl_map]
  rfl

def runAcc (F : FileV) (ts : Nat → Option Int) (n : Nat) : Nat × Nat :=
  (((List.range n).filter fun s => s = 0 || F.isLF (s - 1)).map ts).foldl runStep (0, 0)

theorem runAcc_succ (F : FileV) (ts : Nat → Option Int) (n : Nat) :
    runAcc F ts (n + 1) =
      if (n = 0 || F.isLF (n - 1)) = true then runStep (runAcc F ts n) (ts n)
      else runAcc F ts n := by
  unfold runAcc
  rw [List.range_succ, List.filter_append, List.map_append, List.foldl_append]
  split <;> simp [*]

/-- number of consecutive undated line starts immediately before position `n` -/
def U (F : FileV) (ts : Nat → Option Int) (n : Nat) : Nat := (runAcc F ts n).1

theorem U_succ_start (s : Nat) (hs : Spec.Boundary F s) (hu : ts s = none) :
    U F ts (s + 1) = U F ts s + 1 := by
  unfold U
  rw [runAcc_succ, if_pos (by rcases hs with h | h <;> simp [h]), hu]
  rfl

theorem U_le_of_und (a b : Nat) (hab : a ≤ b) (hb : b ≤ F.len) (hu : Und F ts a b) :
    U F ts a ≤ U F ts b := by
  induction b with
  | zero => rw [Nat.le_zero.1 hab]; exact Nat.le_refl _
  | succ b ih =>
    by_cases hab' : a = b + 1
    · rw [hab']; exact Nat.le_refl _
    · refine Nat.le_trans (ih (by omega) (by omega) (hu.mono (Nat.le_refl _) (by omega))) ?_
      unfold U
      rw [runAcc_succ]
      split
      · rename_i hc
        rw [hu b (by omega) (by omega) ⟨by omega, by simpa using hc⟩]
        exact Nat.le_succ _
      · exact Nat.le_refl _

/-- H2 in usable form -/
theorem U_le_run (n : Nat) (hn : n ≤ F.len) : U F ts n ≤ Spec.longestUndatedRun F ts := by
  obtain ⟨k, hk⟩ : ∃ k, F.len = n + k := ⟨F.len - n, by omega⟩
  rw [longestUndatedRun_eq]
  unfold Spec.lineStarts
  rw [hk, List.range_add, List.filter_append, List.map_append]
  exact run_prefix_le ..

end Sk.C04
