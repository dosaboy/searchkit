/-
  SkModel.Proofs.SeqCore — C03 for one sequence definition run alone: the state machine
  `seqStep` + `eofDef` reports exactly the complete sections of `Spec.sections`.
-/
import SkModel.Proofs.DefStep
import SkModel.Proofs.SeqCoreAbs

namespace Sk

open Spec

/-- what `Res.view` shows of a result: section id, tag, line number, values -/
abbrev View := Option (Nat × Nat) × Option String × Nat × List (Option Val)

/-- the sub-definition that gives an item of role `role` its values.  `Spec.itemsOf` yields a
    "-body" / "-end" item only where that part is defined, so the `getD` defaults are never used.
    The last branch is the end role and takes every other string too.  `Drv.specSeqCase` and
    `Drv.specSeqGatedCase` (Driver.lean, which imports no proof module) repeat the chain as `sdOf`. -/
def roleDef (s : SeqDef) (role : String) : SDef :=
  if role == "-start" then s.start else if role == "-body" then s.body.getD s.start else s.end_.getD s.start

/-- what the task reports (as `View`s) for the complete section `sec` of the sequence definition
    `id`, drawn under section id `k`; `C03_sections_exact` is stated in these terms -/
def renderSection (id : Nat) (s : SeqDef) (n : Nat) (sec : Spec.Section) (k : Nat) :
    List (Option (Nat × Nat) × Option String × Nat × List (Option Val)) :=
  (Spec.itemsOf s n sec).map fun it =>
    (some (id, k), some (s.tag ++ it.role), it.ln, Spec.values (roleDef s it.role) it.m)

theorem render_sec {id : Nat} {s : SeqDef} {n : Nat} {sec : Spec.Section} {k : Nat} {v : View}
    (h : v ∈ renderSection id s n sec k) : v.1 = some (id, k) := by
  simp only [renderSection, List.mem_map] at h
  obtain ⟨it, _, rfl⟩ := h
  rfl

theorem render_start {id : Nat} {s : SeqDef} {n i k : Nat} {m : Match}
    (h : s.start.run i = some m) :
    renderSection id s n ⟨i, [], none⟩ k =
      [(some (id, k), some (s.tag ++ "-start"), i + 1, Spec.values s.start m)] := by
  simp only [renderSection, itemsOf, h]
  cases s.body <;> cases s.end_ <;> simp [roleDef]

theorem render_body_snoc {id : Nat} {s : SeqDef} {n a i k : Nat} {bs : List Nat} {b : SDef}
    {m : Match} (hb : s.body = some b) (h : b.run i = some m) :
    renderSection id s n ⟨a, bs ++ [i], none⟩ k =
      renderSection id s n ⟨a, bs, none⟩ k ++
        [(some (id, k), some (s.tag ++ "-body"), i + 1, Spec.values b m)] := by
  simp only [renderSection, itemsOf, hb, List.filterMap_append]
  cases s.end_ <;> simp [roleDef, h, hb]

theorem render_close {id : Nat} {s : SeqDef} {n a j k : Nat} {bs : List Nat} {e : SDef}
    {m : Match} (he : s.end_ = some e) (h : (if j < n then e.run j else e.emptyRes) = some m) :
    renderSection id s n ⟨a, bs, some j⟩ k =
      renderSection id s n ⟨a, bs, none⟩ k ++
        [(some (id, k), some (s.tag ++ "-end"), j + 1, Spec.values e m)] := by
  simp [renderSection, itemsOf, he, h, roleDef]

/-- The open section is rendered as the complete section `⟨a, bs, none⟩` of a sequence without
    end, also when `s` has one: `Rel.close` then needs no case on `s.end_`, and a close by the
    end pattern only appends the "-end" item (`render_close`). -/
def openRender (id : Nat) (s : SeqDef) (n : Nat) (o : Option (Nat × List Nat)) (k : Nat) :
    List View :=
  match o with
  | none => []
  | some (a, bs) => renderSection id s n ⟨a, bs, none⟩ k

def closedRender (id : Nat) (s : SeqDef) (n : Nat) (cl : List Spec.Section) (ids : List Nat) :
    List View :=
  (cl.zip ids).flatMap (fun p => renderSection id s n p.1 p.2)

/-- `st` simulates the abstract state `A`: its results render the closed sections of `A`
    under the section ids `ids` (increasing, all drawn already), then the open section
    under the current id `st.sec`, which is above them all -/
structure Rel (id : Nat) (s : SeqDef) (n : Nat) (st : DSt) (A : ASt) (ids : List Nat) : Prop where
  run : st.runnable = true
  len : ids.length = A.closed.length
  sorted : ids.Pairwise (· < ·)
  ltcnt : ∀ k ∈ ids, k < st.cnt
  started : st.started = A.opn.isSome
  cur : st.started = true → st.sec < st.cnt ∧ ∀ k ∈ ids, k < st.sec
  view : st.seqRes.map Res.view = closedRender id s n A.closed ids ++ openRender id s n A.opn st.sec

theorem closedRender_snoc {id : Nat} {s : SeqDef} {n : Nat} {cl : List Spec.Section}
    {ids : List Nat} {x : Spec.Section} {k : Nat} (h : ids.length = cl.length) :
    closedRender id s n (cl ++ [x]) (ids ++ [k]) =
      closedRender id s n cl ids ++ renderSection id s n x k := by
  simp [closedRender, List.zip_append h.symm]

theorem closedRender_sec {id : Nat} {s : SeqDef} {n : Nat} {cl : List Spec.Section}
    {ids : List Nat} {v : View} (h : v ∈ closedRender id s n cl ids) :
    ∃ k ∈ ids, v.1 = some (id, k) := by
  simp only [closedRender, List.mem_flatMap] at h
  obtain ⟨p, hp, hv⟩ := h
  exact ⟨p.2, (List.of_mem_zip hp).2, render_sec hv⟩

theorem filter_closed_open {id : Nat} {s : SeqDef} {n : Nat} {cl : List Spec.Section}
    {ids : List Nat} {o : Option (Nat × List Nat)} {k : Nat} {l : List Res}
    (hv : l.map Res.view = closedRender id s n cl ids ++ openRender id s n o k)
    (h : ∀ k' ∈ ids, k' < k) :
    (l.filter (fun r => r.sec != some (id, k))).map Res.view = closedRender id s n cl ids := by
  have hcl : ∀ v ∈ closedRender id s n cl ids, (v.1 != some (id, k)) = true := by
    intro v hv
    obtain ⟨k', hk', hv'⟩ := closedRender_sec hv
    simpa [hv'] using Nat.ne_of_lt (h k' hk')
  have hop : ∀ v ∈ openRender id s n o k, ¬ (v.1 != some (id, k)) = true := by
    intro v hv
    cases o with
    | none => nomatch hv
    | some ab => simp [render_sec hv]
  have : (l.filter (fun r => r.sec != some (id, k))).map Res.view =
      (l.map Res.view).filter (fun v => v.1 != some (id, k)) := by
    rw [List.filter_map]; rfl
  rw [this, hv, List.filter_append, List.filter_eq_self.mpr hcl, List.filter_eq_nil_iff.mpr hop,
    List.append_nil]

theorem Rel.close {id s n st cl a bs ids} (hR : Rel id s n st ⟨cl, some (a, bs)⟩ ids) :
    (ids ++ [st.sec]).Pairwise (· < ·) ∧ (∀ k ∈ ids ++ [st.sec], k < st.cnt) ∧
      st.seqRes.map Res.view = closedRender id s n (cl ++ [⟨a, bs, none⟩]) (ids ++ [st.sec]) := by
  obtain ⟨hsec, hids⟩ := hR.cur (by simp [hR.started])
  refine ⟨List.pairwise_append.mpr ⟨hR.sorted, by simp, fun k hk k' hk' => ?_⟩, fun k hk => ?_, ?_⟩
  · rw [List.mem_singleton.mp hk']; exact hids k hk
  · rcases List.mem_append.mp hk with h | h
    · exact hR.ltcnt k h
    · rw [List.mem_singleton.mp h]; exact hsec
  · rw [closedRender_snoc hR.len]; exact hR.view

theorem Rel.opened {id s n} {st : DSt} {cl ids base k c i m r} (hrun : st.runnable = true)
    (hlen : ids.length = cl.length) (hsorted : ids.Pairwise (· < ·)) (hlt : ∀ k' ∈ ids, k' < k)
    (hkc : k < c) (hview : base.map Res.view = closedRender id s n cl ids)
    (hs : s.start.run i = some m) (hr : mkSeqRes id s "-start" s.start (i + 1) k m = .ok r) :
    Rel id s n { st with started := true, cnt := c, sec := k, seqRes := base ++ [r], everAdded := true }
      ⟨cl, some (i, [])⟩ ids :=
  ⟨hrun, hlen, hsorted, fun k' hk' => Nat.lt_trans (hlt k' hk') hkc, rfl, fun _ => ⟨hkc, hlt⟩, by
    simp [hview, openRender, render_start hs, (mkSeqRes_ok hr).2.2]⟩

def hitsOpt (o : Option SDef) (i : Nat) : Bool :=
  match o with
  | some d => hits d i
  | none => false

theorem hitsOpt_eq (o : Option SDef) (i : Nat) : hitsOpt o i = (hitOf o i).isSome := by
  cases o <;> simp [hitsOpt, hitOf, hits]

/-- how the lines are read for `s`: without an end, the end pattern never matches, a start
    line inside a section completes it, end of file completes it, and no closing line is
    recorded -/
def readingOf (s : SeqDef) (n : Nat) : Reading where
  sp := hits s.start
  bp := hitsOpt s.body
  ep := hitsOpt s.end_
  keep := s.end_.isNone
  endEmpty := s.end_.all (·.emptyRes.isSome)
  mark j := s.end_.map fun _ => j
  n := n

theorem sections_eq_abs (s : SeqDef) (n : Nat) :
    Spec.sections s n =
      absFin (readingOf s n) ((List.range n).foldl (absStep (readingOf s n)) ⟨[], none⟩) := by
  refine Eq.trans ?_ (abs_spec (R := readingOf s n)).symm
  unfold Spec.sections readingOf
  cases s.end_ with
  | none => cases s.body <;> exact sectionsNoEnd_eq _ _ _
  | some e => cases s.body <;> exact sectionsWithEnd_eq _ _ _ _ _

theorem absStep_closed (s : SeqDef) (n : Nat) (cl : List Spec.Section) (i : Nat) :
    absStep (readingOf s n) ⟨cl, none⟩ i = ⟨cl, (s.start.run i).map fun _ => (i, [])⟩ := by
  cases hs : s.start.run i <;> simp [absStep, readingOf, hits, hs]

theorem absStep_open (s : SeqDef) (n : Nat) (cl : List Spec.Section) (a : Nat) (bs : List Nat)
    (i : Nat) :
    absStep (readingOf s n) ⟨cl, some (a, bs)⟩ i =
      match s.start.run i with
      | some _ => ⟨if s.end_.isSome then cl else cl ++ [⟨a, bs, none⟩], some (i, [])⟩
      | none =>
        match hitOf s.end_ i with
        | some _ => ⟨cl ++ [⟨a, bs, some i⟩], none⟩
        | none =>
          match hitOf s.body i with
          | some _ => ⟨cl, some (a, bs ++ [i])⟩
          | none => ⟨cl, some (a, bs)⟩ := by
  cases hs : s.start.run i
  · cases hE : hitOf s.end_ i with
    | some em =>
      obtain ⟨he, hr⟩ := hitOf_eq_some.mp hE
      simp [absStep, readingOf, hits, hs, hitsOpt, he, hr]
    | none => cases hB : hitOf s.body i <;> simp [absStep, readingOf, hits, hs, hitsOpt_eq, hE, hB]
  · rcases Option.eq_none_or_eq_some s.end_ with he | ⟨e, he⟩ <;>
      simp [absStep, readingOf, hits, hs, he]

theorem rel_step {id : Nat} {s : SeqDef} {n : Nat} {i : Nat} {st st' : DSt} {A : ASt}
    {ids : List Nat} (hi : i < n) (hR : Rel id s n st A ids)
    (h : seqStep id s i st = .ok st') :
    ∃ ids', Rel id s n st' (absStep (readingOf s n) A i) ids' := by
  rw [seqStep_eq_exec] at h
  obtain ⟨cl, _ | ⟨a, bs⟩⟩ := A
  · have hst : st.started = false := hR.started
    rw [absStep_closed]
    cases hs : s.start.run i with
    | none =>
      simp only [seqPlan, hs, hst] at h
      cases h
      exact ⟨ids, hR⟩
    | some m =>
      simp only [seqPlan, hs, hst, exec_file_ok] at h
      obtain ⟨r, hr, rfl⟩ := h
      exact ⟨ids, Rel.opened hR.run hR.len hR.sorted hR.ltcnt (Nat.lt_succ_self _)
        (by simpa [openRender] using hR.view) hs hr⟩
  · have hst : st.started = true := hR.started
    obtain ⟨hsec, hids⟩ := hR.cur hst
    obtain ⟨hsorted', hlt', hview'⟩ := hR.close
    rw [absStep_open]
    cases hs : s.start.run i with
    | some m =>
      cases he : s.end_ with
      | some e =>
        simp only [seqPlan, hs, hst, he, Option.isSome_some, if_true, exec_file_ok] at h ⊢
        obtain ⟨r, hr, rfl⟩ := h
        exact ⟨ids, Rel.opened hR.run hR.len hR.sorted hR.ltcnt (Nat.lt_succ_self _)
          (filter_closed_open hR.view hids) hs hr⟩
      | none =>
        simp only [seqPlan, hs, hst, he, Option.isSome_none, Bool.false_eq_true, if_false,
          exec_file_ok] at h ⊢
        obtain ⟨r, hr, rfl⟩ := h
        exact ⟨ids ++ [st.sec], Rel.opened hR.run (by simp [hR.len]) hsorted'
          (fun k hk => Nat.lt_succ_of_lt (hlt' k hk)) (Nat.lt_succ_self _) hview' hs hr⟩
    | none =>
      cases hE : hitOf s.end_ i with
      | some em =>
        obtain ⟨e, m⟩ := em
        obtain ⟨he, hen⟩ := hitOf_eq_some.mp hE
        simp only [seqPlan, hs, hst, hE, exec_file_ok] at h
        obtain ⟨r, hr, rfl⟩ := h
        refine ⟨ids ++ [st.sec], hR.run, by simp [hR.len], hsorted',
          fun k hk => Nat.lt_succ_of_lt (hlt' k hk), rfl, fun hc => (nomatch hc), ?_⟩
        rw [closedRender_snoc hR.len, render_close he (by simpa [hi] using hen)]
        simp [hR.view, openRender, (mkSeqRes_ok hr).2.2]
      | none =>
        cases hB : hitOf s.body i with
        | none =>
          simp only [seqPlan, hs, hst, hE, hB] at h
          cases h
          exact ⟨ids, hR⟩
        | some bm =>
          obtain ⟨b, m⟩ := bm
          obtain ⟨hb, hbr⟩ := hitOf_eq_some.mp hB
          simp only [seqPlan, hs, hst, hE, hB, exec_file_ok] at h
          obtain ⟨r, hr, rfl⟩ := h
          refine ⟨ids, hR.run, hR.len, hR.sorted, hR.ltcnt, rfl, fun _ => ⟨hsec, hids⟩, ?_⟩
          simp [hR.view, openRender, render_body_snoc hb hbr, (mkSeqRes_ok hr).2.2]

theorem solo_rel {d : Def} {s : SeqDef} {n : Nat} (hk : d.kind = .seq s) :
    ∀ {lines : List Nat} {st stF : DSt} {A : ASt} {ids : List Nat} {out : List Res},
      (∀ i ∈ lines, i < n) → Rel d.id s n st A ids → soloLoop d st lines = .ok (stF, out) →
      ∃ ids', Rel d.id s n stF (lines.foldl (absStep (readingOf s n)) A) ids'
  | [], _, _, _, ids, _, _, hR, h => by cases h; exact ⟨ids, hR⟩
  | i :: is, st, stF, A, ids, out, hl, hR, h => by
    obtain ⟨st1, o, os, h1, h2, rfl⟩ := soloLoop_cons_ok.mp h
    simp only [defStep_runnable hR.run, defBody_seq hk, bind_ok, pure_ok, Prod.mk.injEq] at h1
    obtain ⟨_, hs, rfl, _⟩ := h1
    obtain ⟨ids1, hR1⟩ := rel_step (hl i (by simp)) hR hs
    exact solo_rel hk (lines := is) (fun j hj => hl j (by simp [hj])) hR1 h2

theorem rel_init (d : Def) (s : SeqDef) (n : Nat) (hc : d.cons = []) :
    Rel d.id s n (DSt.init d) ⟨[], none⟩ [] := by
  refine ⟨by simp [DSt.init, hc], rfl, by simp, by simp, by simp [DSt.init], by simp [DSt.init], ?_⟩
  simp [DSt.init, closedRender, openRender]

theorem rel_eof {d : Def} {s : SeqDef} {n : Nat} {st : DSt} {A : ASt} {ids : List Nat}
    {fin : List Res} (hk : d.kind = .seq s) (hR : Rel d.id s n st A ids)
    (h : eofDef n d st = .ok fin) :
    ∃ ids', ids'.Pairwise (· < ·) ∧ ids'.length = (absFin (readingOf s n) A).length ∧
      fin.map Res.view = closedRender d.id s n (absFin (readingOf s n) A) ids' := by
  obtain ⟨cl, _ | ⟨a, bs⟩⟩ := A
  · have hst : st.started = false := hR.started
    simp only [eofDef, hk, hst, Bool.false_eq_true, if_false, pure_ok] at h
    subst h
    exact ⟨ids, hR.sorted, hR.len, by simpa [openRender, absFin] using hR.view⟩
  · have hst : st.started = true := hR.started
    obtain ⟨hsorted', _, hview'⟩ := hR.close
    cases he : s.end_ with
    | none =>
      have hA : absFin (readingOf s n) ⟨cl, some (a, bs)⟩ = cl ++ [⟨a, bs, none⟩] := by
        simp [readingOf, absFin, he]
      simp only [eofDef, hk, hst, he, if_true, pure_ok] at h
      subst h
      exact ⟨ids ++ [st.sec], hsorted', by simp [hA, hR.len], hA ▸ hview'⟩
    | some e =>
      cases hem : e.emptyRes with
      | none =>
        have hA : absFin (readingOf s n) ⟨cl, some (a, bs)⟩ = cl := by simp [readingOf, absFin, he, hem]
        simp only [eofDef, hk, hst, he, hem, if_true, pure_ok] at h
        subst h
        rw [hA]
        exact ⟨ids, hR.sorted, hR.len, filter_closed_open hR.view (hR.cur hst).2⟩
      | some m =>
        have hA : absFin (readingOf s n) ⟨cl, some (a, bs)⟩ = cl ++ [⟨a, bs, some n⟩] := by
          simp [readingOf, absFin, he, hem]
        simp only [eofDef, hk, hst, he, hem, if_true, bind_ok, pure_ok] at h
        obtain ⟨r, hr, rfl⟩ := h
        refine ⟨ids ++ [st.sec], hsorted', by simp [hA, hR.len], ?_⟩
        rw [hA, closedRender_snoc hR.len, render_close he (by simpa using hem)]
        simp [hR.view, openRender, (mkSeqRes_ok hr).2.2]

/-- **C03, single definition.**  A sequence definition with no per-search constraints, run
    alone over lines `0..n-1` and then through end-of-file processing, reports exactly the
    specified complete sections, in order, each under its own section id (the ids are
    strictly increasing, in particular pairwise distinct). -/
theorem seq_solo_spec_sorted (d : Def) (s : SeqDef) (hk : d.kind = .seq s) (hc : d.cons = [])
    (n : Nat) (stF : DSt) (out fin : List Res)
    (h1 : soloLoop d (DSt.init d) (List.range n) = .ok (stF, out))
    (h2 : eofDef n d stF = .ok fin) :
    out = [] ∧
    ∃ ids : List Nat, ids.Pairwise (· < ·) ∧ ids.length = (Spec.sections s n).length ∧
      fin.map Res.view =
        ((Spec.sections s n).zip ids).flatMap (fun p => renderSection d.id s n p.1 p.2) := by
  obtain ⟨ids1, hR⟩ := solo_rel hk (fun i hi => by simpa using hi) (rel_init d s n hc) h1
  obtain ⟨ids, hs, hl, hv⟩ := rel_eof hk hR h2
  rw [← sections_eq_abs] at hl hv
  exact ⟨soloLoop_seq_out hk h1, ids, hs, hl, hv⟩

theorem seq_solo_spec (d : Def) (s : SeqDef) (hk : d.kind = .seq s) (hc : d.cons = [])
    (n : Nat) (stF : DSt) (out fin : List Res)
    (h1 : soloLoop d (DSt.init d) (List.range n) = .ok (stF, out))
    (h2 : eofDef n d stF = .ok fin) :
    out = [] ∧
    ∃ ids : List Nat, ids.Nodup ∧ ids.length = (Spec.sections s n).length ∧
      fin.map Res.view =
        ((Spec.sections s n).zip ids).flatMap (fun p => renderSection d.id s n p.1 p.2) := by
  obtain ⟨ho, ids, hs, hl, hv⟩ := seq_solo_spec_sorted d s hk hc n stF out fin h1 h2
  exact ⟨ho, ids, hs.imp (fun h => Nat.ne_of_lt h), hl, hv⟩

end Sk
