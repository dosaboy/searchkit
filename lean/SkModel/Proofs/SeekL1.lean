/-
  SkModel.Proofs.SeekL1 — finding one line: the two chunked line-feed scans of the seeker
  (`findTokenReverse`, `findToken`) and `tryFindLine`, which puts their answers together.

  From a start inside the file the scans are exact: `ftrLoop` / `ftLoop` have closed forms in
  terms of `rfindLF` / `findLF` over the whole remaining range, which is what
  `Spec.lastLFBefore` / `Spec.firstLFFrom` compute.  The closed form does not extend to every
  start: beyond the end of the file the backward scan reads overlapping windows, and from
  `len + H` on it answers `edge 0` whatever the file holds.  From any start only the outcome is
  known: a real line feed on the right side of the start, the file edge, or the max-line-length
  error.  `tryFindLine` is specified both ways accordingly.
-/
import SkModel.Proofs.LineFeeds
import SkModel.Proofs.ExceptLemmas

namespace Sk

namespace SeekL1

/-- `bound` is the offset a backward scan started from: a line feed it finds lies strictly below -/
def StartTok (F : FileV) (bound : Nat) (t : Tok) : Prop :=
  t = .edge 0 ∨ ∃ i : Nat, t = .found (i : Int) ∧ i < F.len ∧ F.isLF i = true ∧ i < bound

/-- `bound` is the offset a forward scan started from: a line feed it finds lies at or after it -/
def EndTok (F : FileV) (bound : Nat) (t : Tok) : Prop :=
  t = .edge (F.len : Int) ∨ ∃ j : Nat, t = .found (j : Int) ∧ j < F.len ∧ F.isLF j = true ∧ bound ≤ j

/-- `RealStart`, `RealEnd`: the bound made vacuous: the file edge or any line feed of the file -/
abbrev RealStart (F : FileV) : Tok → Prop := StartTok F F.len

abbrev RealEnd (F : FileV) : Tok → Prop := EndTok F 0

theorem StartTok.real {F : FileV} {b : Nat} {t : Tok} (h : StartTok F b t) : RealStart F t :=
  h.imp id fun ⟨i, ht, h1, h2, _⟩ => ⟨i, ht, h1, h2, h1⟩

theorem EndTok.real {F : FileV} {b : Nat} {t : Tok} (h : EndTok F b t) : RealEnd F t :=
  h.imp id fun ⟨i, ht, h1, h2, _⟩ => ⟨i, ht, h1, h2, Nat.zero_le _⟩

theorem StartTok.found_end {F : FileV} {b : Nat} {t : Tok} (h : StartTok F b t)
    (hp : 0 < t.off) : RealEnd F (.found t.off) := by
  rcases h with rfl | ⟨i, rfl, i1, i2, _⟩
  · exact absurd hp (Int.lt_irrefl 0)
  · exact .inr ⟨i, rfl, i1, i2, Nat.zero_le _⟩

theorem EndTok.start {F : FileV} {b : Nat} {o : Int} (h : EndTok F b (.found o)) :
    RealStart F (.found o) := by
  rcases h with h | ⟨i, ht, h1, h2, _⟩
  · cases h
  · exact .inr ⟨i, ht, h1, h2, h1⟩

theorem EndTok.found_start {F : FileV} {b : Nat} {t : Tok} (h : EndTok F b t)
    (hp : t.off < F.len) : RealStart F (.found t.off) := by
  cases t with
  | found o => exact h.start
  | edge o =>
    rcases h with h | ⟨_, h, _⟩ <;> cases h
    exact absurd hp (Int.lt_irrefl _)

/-- the range assertions of `try_find_line` -/
abbrev RangeOK (F : FileV) (slf elf : Tok) : Prop :=
  slf.off ≤ F.len ∧ 0 ≤ slf.off ∧ elf.off ≤ F.len ∧ 0 ≤ elf.off ∧ slf.off ≤ elf.off

theorem StartTok.range {F : FileV} {b : Nat} {t : Tok} (h : StartTok F b t) :
    0 ≤ t.off ∧ t.off ≤ F.len ∧ t.off ≤ b := by
  rcases h with rfl | ⟨i, rfl, h1, _, h3⟩ <;> simp only [Tok.off] <;> omega

theorem EndTok.range {F : FileV} {b : Nat} {t : Tok} (h : EndTok F b t) :
    0 ≤ t.off ∧ t.off ≤ F.len ∧ ((F.len : Int) ≤ t.off ∨ (b : Int) ≤ t.off) := by
  rcases h with rfl | ⟨i, rfl, h1, _, h3⟩ <;> simp only [Tok.off] <;> omega

theorem ftrLoop_post (K : SeekK) (F : FileV) (s : Nat) :
    ∀ (fuel : Nat) (cur : Int), cur ≤ -(K.H : Int) →
      Post (· = .maxLineLen) (StartTok F s) (ftrLoop K F s fuel cur)
  | 0, _, _ => rfl
  | n + 1, cur, hc => by
    rw [ftrLoop]
    dsimp only
    -- the window read stays below the start, whatever the start
    have hw : (if (s : Int) + cur > 0 then ((s : Int) + cur).toNat else 0) +
        (if (s : Int) + cur > 0 then K.H else ((K.H : Int) + ((s : Int) + cur)).toNat) ≤ s := by
      split <;> omega
    generalize (if (s : Int) + cur > 0 then ((s : Int) + cur).toNat else 0) = a at hw ⊢
    generalize (if (s : Int) + cur > 0 then K.H
      else ((K.H : Int) + ((s : Int) + cur)).toNat) = k at hw ⊢
    have hg : readLen F a k ≤ k := Nat.min_le_left _ _
    generalize readLen F a k = g at hg ⊢
    refine Post.ite (fun _ => Or.inl rfl) fun _ => ?_
    cases hi : rfindLF F a g with
    | some i =>
      obtain ⟨_, h2, h3, h4, _⟩ := rfindLF_some hi
      exact Or.inr ⟨i, rfl, h3, h4, by omega⟩
    | none =>
      exact Post.ite (fun _ => rfl) fun _ => Post.ite (fun _ => Or.inl rfl) fun _ =>
        ftrLoop_post K F s n _ (by omega)

/-- closed form of the backward scan whose next chunk ends at `t`: the nearest line feed `i` below
    `t` is found iff it lies within `fuel` chunks of `K.H` bytes below `t`; the edge costs one
    attempt more (see `ftrLoop_eq`) -/
def ftrR (K : SeekK) (F : FileV) (fuel t : Nat) : Except SeekErr Tok :=
  match rfindLF F 0 t with
  | some i => if t ≤ i + fuel * K.H then .ok (.found i) else .error .maxLineLen
  | none => if t + K.H ≤ fuel * K.H then .ok (.edge 0) else .error .maxLineLen

/-- the chunk read is `[u, u + w)`; with `u = 0` it is the first chunk of the file, maybe partial -/
theorem ftrLoop_step (K : SeekK) (F : FileV) (s n u w : Nat) (cur : Int)
    (hw : w ≤ K.H) (huw : u = 0 ∨ w = K.H) (hlen : u + w ≤ F.len)
    (hcur : (s : Int) + cur = (u : Int) + w - K.H) :
    ftrLoop K F s (n + 1) cur =
      if w = 0 then .ok (.edge 0)
      else match rfindLF F u w with
        | some i => .ok (.found i)
        | none =>
          if n = 0 then .error .maxLineLen
          else if u = 0 then .ok (.edge 0) else ftrLoop K F s n (cur - w) := by
  have ha : (if (s : Int) + cur > 0 then ((s : Int) + cur).toNat else 0) = u := by
    split <;> omega
  have hg : (if (s : Int) + cur > 0 then K.H
      else ((K.H : Int) + ((s : Int) + cur)).toNat) = w := by
    split <;> omega
  have hr : readLen F u w = w := Nat.min_eq_left (Nat.le_sub_of_add_le' hlen)
  have he : ((s : Int) + (cur - w) ≤ -(K.H : Int)) ↔ u = 0 := by omega
  rw [ftrLoop]
  simp only [ha, hg, hr, he]
  rfl

/-- the code's test for the last attempt agrees with what the loop answers without fuel -/
theorem ftrLoop_last_attempt (K : SeekK) (F : FileV) (s n : Nat) (cur : Int) :
    (if n = 0 then .error .maxLineLen else ftrLoop K F s n cur) = ftrLoop K F s n cur := by
  cases n <;> rfl

theorem ftrLoop_eq (K : SeekK) (hH : 0 < K.H) (F : FileV) (s : Nat) :
    ∀ (fuel t : Nat) (cur : Int), t ≤ F.len → (s : Int) + cur = (t : Int) - K.H →
      ftrLoop K F s fuel cur = ftrR K F fuel t := by
  intro fuel
  induction fuel with
  | zero =>
    intro t cur _ _
    unfold ftrR
    rw [Nat.zero_mul]
    cases h : rfindLF F 0 t with
    | none => exact (if_neg (by omega)).symm
    | some i => exact (if_neg (by have := (rfindLF_some h).2.1; omega)).symm
  | succ n ih =>
    intro t cur hlen hcur
    obtain ⟨u, w, rfl, hw, huw⟩ : ∃ u w, t = u + w ∧ w ≤ K.H ∧ (u = 0 ∨ w = K.H) := by
      by_cases h : t ≤ K.H
      · exact ⟨0, t, (Nat.zero_add t).symm, h, .inl rfl⟩
      · exact ⟨t - K.H, K.H, by omega, Nat.le_refl _, .inr rfl⟩
    rw [ftrLoop_step K F s n u w cur hw huw hlen (by omega)]
    unfold ftrR
    rw [rfindLF_split, Nat.zero_add, Nat.succ_mul]
    by_cases hw0 : w = 0
    · have hu0 : u = 0 := by omega
      subst hw0 hu0
      exact (if_pos (by omega : 0 + 0 + K.H ≤ n * K.H + K.H)).symm
    rw [if_neg hw0]
    cases hc : rfindLF F u w with
    | some i => exact (if_pos (by have := (rfindLF_some hc).1; omega)).symm
    | none =>
      dsimp only
      by_cases hu0 : u = 0
      · -- the chunk reached the start of the file: one more attempt is needed to notice
        subst hu0
        cases n with
        | zero => exact (if_neg (by omega)).symm
        | succ m => rw [Nat.succ_mul]; exact (if_pos (by omega)).symm
      · have hwH : w = K.H := by omega
        subst hwH
        rw [if_neg hu0, ftrLoop_last_attempt, ih u (cur - K.H) (by omega) (by omega)]
        unfold ftrR
        simp only [← Nat.add_assoc, Nat.add_le_add_iff_right]

theorem ftLoop_post (K : SeekK) (F : FileV) (s : Nat) :
    ∀ (fuel pos : Nat), s ≤ pos → Post (· = .maxLineLen) (EndTok F s) (ftLoop K F fuel pos)
  | 0, _, _ => rfl
  | n + 1, pos, hp => by
    rw [ftLoop]
    refine Post.ite (fun _ => Or.inl rfl) fun _ => ?_
    cases hi : findLF F pos (readLen F pos K.H) with
    | some i =>
      obtain ⟨h1, _, h3, h4, _⟩ := findLF_some hi
      exact Or.inr ⟨i, rfl, h3, h4, by omega⟩
    | none => exact ftLoop_post K F s n _ (by omega)

/-- closed form of the forward scan at `pos` with `m = len - pos` bytes left: the first line feed
    `j` from `pos` on is found iff it lies within the `fuel` chunks of `K.H` bytes from `pos`; the
    edge costs one attempt more, as backwards -/
def ftR (K : SeekK) (F : FileV) (fuel pos m : Nat) : Except SeekErr Tok :=
  match findLF F pos m with
  | some j => if j < pos + fuel * K.H then .ok (.found j) else .error .maxLineLen
  | none => if m + K.H ≤ fuel * K.H then .ok (.edge F.len) else .error .maxLineLen

theorem ftLoop_eq (K : SeekK) (hH : 0 < K.H) (F : FileV) :
    ∀ (fuel pos m : Nat), pos + m = F.len → ftLoop K F fuel pos = ftR K F fuel pos m := by
  intro fuel
  induction fuel with
  | zero =>
    intro pos m _
    unfold ftR
    rw [Nat.zero_mul]
    cases h : findLF F pos m with
    | none => exact (if_neg (by omega)).symm
    | some j => exact (if_neg (by have := (findLF_some h).1; omega)).symm
  | succ n ih =>
    intro pos m hlen
    have hg : readLen F pos K.H = min K.H m := by
      unfold readLen; rw [← hlen, Nat.add_sub_cancel_left]
    -- the chunk read is `[pos, pos + w)`, `r` bytes are left after it
    obtain ⟨w, r, rfl, hw, hwr, hm⟩ :
        ∃ w r, m = w + r ∧ w ≤ K.H ∧ (r = 0 ∨ w = K.H) ∧ min K.H m = w := by
      by_cases h : m ≤ K.H
      · exact ⟨m, 0, rfl, h, .inl rfl, Nat.min_eq_right h⟩
      · exact ⟨K.H, m - K.H, by omega, Nat.le_refl _, .inr rfl,
          Nat.min_eq_left (Nat.le_of_not_le h)⟩
    rw [ftLoop, hg, hm]
    unfold ftR
    rw [findLF_split, Nat.succ_mul]
    by_cases hw0 : w = 0
    · have hr0 : r = 0 := by omega
      subst hw0 hr0
      exact (if_pos (by omega : 0 + 0 + K.H ≤ n * K.H + K.H)).symm
    rw [if_neg hw0]
    cases hc : findLF F pos w with
    | some j => exact (if_pos (by have := (findLF_some hc).2.1; omega)).symm
    | none =>
      dsimp only
      rw [ih (pos + w) r (by omega)]
      unfold ftR
      by_cases hwH : w = K.H
      · subst hwH
        simp only [← Nat.add_assoc, Nat.add_le_add_iff_right, Nat.add_right_comm pos K.H,
          Nat.add_comm K.H r]
      · -- the chunk reached the end of the file: one more attempt is needed to notice
        have hr0 : r = 0 := by omega
        subst hr0
        have hn : n * K.H = 0 ∨ K.H ≤ n * K.H := by
          cases n with
          | zero => exact .inl (Nat.zero_mul _)
          | succ k => exact .inr (Nat.le_mul_of_pos_left _ (Nat.succ_pos k))
        exact ite_cond_congr (propext (by omega))

theorem findTokenReverse_post (K : SeekK) (F : FileV) (s : Nat) :
    Post (· = .maxLineLen) (StartTok F s) (findTokenReverse K F s) :=
  ftrLoop_post K F s _ _ (Int.le_refl _)

theorem findToken_post (K : SeekK) (F : FileV) (s : Nat) :
    Post (· = .maxLineLen) (EndTok F s) (findToken K F s) :=
  ftLoop_post K F s _ _ (Nat.le_refl _)

/-- `specSlf`, `specElf`: what an exact backward / forward scan from `o` answers: the nearest line
    feed below `o` / from `o` on, else the file edge -/
def specSlf (F : FileV) (o : Nat) : Tok :=
  match Spec.lastLFBefore F o with
  | some i => .found i
  | none => .edge 0

def specElf (F : FileV) (o : Nat) : Tok :=
  match Spec.firstLFFrom F o (F.len - o) with
  | some j => .found j
  | none => .edge F.len

theorem specSlf_tok (F : FileV) (o : Nat) : StartTok F o (specSlf F o) := by
  unfold specSlf
  cases h : Spec.lastLFBefore F o with
  | some i =>
    have := Spec.lastLFBefore_some h
    exact .inr ⟨i, rfl, this.2.1, this.2.2.1, this.1⟩
  | none => exact .inl rfl

theorem specElf_tok (F : FileV) (o : Nat) : EndTok F o (specElf F o) := by
  unfold specElf
  cases h : Spec.firstLFFrom F o (F.len - o) with
  | some j =>
    have := Spec.firstLFFrom_some h
    exact .inr ⟨j, rfl, this.2.2.1, this.2.2.2.1, this.1⟩
  | none => exact .inl rfl

theorem specSlf_start (F : FileV) (o : Nat) (e : Tok) :
    (⟨specSlf F o, e⟩ : LLine).startOffset = Spec.lineStart F o := by
  unfold specSlf Spec.lineStart LLine.startOffset
  cases Spec.lastLFBefore F o <;> rfl

theorem specSlf_off (F : FileV) (o : Nat) :
    (specSlf F o).off = ((Spec.lineStart F o - 1 : Nat) : Int) := by
  unfold specSlf Spec.lineStart
  cases Spec.lastLFBefore F o <;> rfl

theorem specElf_eq (F : FileV) (o : Nat) :
    specElf F o =
      if Spec.lineEnd F o < F.len then Tok.found (Spec.lineEnd F o) else Tok.edge F.len := by
  unfold specElf Spec.lineEnd
  cases h : Spec.firstLFFrom F o (F.len - o) with
  | some j => exact (if_pos (Spec.firstLFFrom_some h).2.2.1).symm
  | none => exact (if_neg (Nat.lt_irrefl _)).symm

theorem specElf_off (F : FileV) (o : Nat) (ho : o ≤ F.len) :
    (specElf F o).off = (Spec.lineEnd F o : Int) := by
  have := Spec.le_lineEnd F o ho
  rw [specElf_eq]
  split <;> simp only [Tok.off] <;> omega

/-- the token `try_find_line` takes on one side: the caller's line feed, else the scan's -/
def sideOf (scan : Except SeekErr Tok) : Option Int → Except SeekErr Tok
  | none => scan
  | some o => .ok (.found o)

theorem tryFindLine_eq (K : SeekK) (F : FileV) (epi : Nat) (so eo : Option Int) :
    tryFindLine K F epi so eo =
      (sideOf (findToken K F epi) eo).bind fun elf =>
        (sideOf (findTokenReverse K F epi) so).bind fun slf =>
          if RangeOK F slf elf then .ok ⟨slf, elf⟩ else .error .assertFailed := by
  cases so <;> cases eo <;> rfl

/-- one side of `try_find_line`'s answer: the caller's line feed `lfo`, taken as it is, or a
    scanned token, of which `P` is known -/
def Side (P : Tok → Prop) (lfo : Option Int) (t : Tok) : Prop :=
  (∃ o, lfo = some o ∧ t = .found o) ∨ P t

theorem Side.of_none {P : Tok → Prop} {t : Tok} (h : Side P none t) : P t :=
  h.elim (fun ⟨_, ho, _⟩ => by cases ho) id

/-- the line feeds the caller hands to `try_find_line` lie in the file and on their side of the
    epicenter; then the range assertions hold (`RangeOK.of_sides`) -/
abbrev KnownOK (F : FileV) (epi : Nat) (so eo : Option Int) : Prop :=
  (∀ o, so = some o → 0 ≤ o ∧ o ≤ F.len ∧ o ≤ epi) ∧ (∀ o, eo = some o → o ≤ F.len ∧ epi ≤ o)

theorem RangeOK.of_sides {F : FileV} {epi : Nat} {so eo : Option Int} {slf elf : Tok}
    (hA : KnownOK F epi so eo) (hs : Side (StartTok F epi) so slf)
    (he : Side (EndTok F epi) eo elf) : RangeOK F slf elf := by
  have h1 : 0 ≤ slf.off ∧ slf.off ≤ F.len ∧ slf.off ≤ epi := by
    rcases hs with ⟨o, ho, rfl⟩ | hs
    · exact hA.1 o ho
    · exact hs.range
  have h2 : elf.off ≤ F.len ∧ ((F.len : Int) ≤ elf.off ∨ (epi : Int) ≤ elf.off) := by
    rcases he with ⟨o, ho, rfl⟩ | he
    · exact ⟨(hA.2 o ho).1, .inr (hA.2 o ho).2⟩
    · exact he.range.2
  unfold RangeOK; omega

/-- the error side of the seeker's `Post`s: given `A`, the error is not the failed assertion -/
def NoAssert (A : Prop) (e : SeekErr) : Prop := A → e ≠ .assertFailed

theorem sideOf_post {A : Prop} {P : Tok → Prop} {scan : Except SeekErr Tok}
    (h : Post (· = .maxLineLen) P scan) (lfo : Option Int) :
    Post (NoAssert A) (Side P lfo) (sideOf scan lfo) := by
  cases lfo with
  | none => exact h.imp (fun _ he _ => by rw [he]; nofun) fun _ => .inr
  | some o => exact .inl ⟨o, rfl, rfl⟩

theorem tryFindLine_post (K : SeekK) (F : FileV) (epi : Nat) (so eo : Option Int) :
    Post (NoAssert (KnownOK F epi so eo))
      (fun l => Side (StartTok F epi) so l.slf ∧ Side (EndTok F epi) eo l.elf ∧
        RangeOK F l.slf l.elf)
      (tryFindLine K F epi so eo) := by
  rw [tryFindLine_eq]
  refine (sideOf_post (findToken_post K F epi) eo).bind fun elf he => ?_
  refine (sideOf_post (findTokenReverse_post K F epi) so).bind fun slf hs => ?_
  exact Post.ite (fun hr => ⟨hs, he, hr⟩) fun hr hA _ => hr (.of_sides hA hs he)

/-- `sideOf` as a value, for a scan that answered `t` (`sideOf_ok`) -/
def knownOr (t : Tok) : Option Int → Tok
  | none => t
  | some o => .found o

theorem sideOf_ok (t : Tok) (lfo : Option Int) : sideOf (.ok t) lfo = .ok (knownOr t lfo) := by
  cases lfo <;> rfl

theorem Side.knownOr {P : Tok → Prop} {t : Tok} (h : P t) (lfo : Option Int) :
    Side P lfo (knownOr t lfo) := by
  cases lfo with
  | none => exact .inr h
  | some o => exact .inl ⟨o, rfl, rfl⟩

theorem tryFindLine_exact {K : SeekK} {F : FileV} {o : Nat}
    (h1 : findToken K F o = .ok (specElf F o)) (h2 : findTokenReverse K F o = .ok (specSlf F o))
    (so eo : Option Int) (hk : KnownOK F o so eo) :
    tryFindLine K F o so eo = .ok ⟨knownOr (specSlf F o) so, knownOr (specElf F o) eo⟩ := by
  rw [tryFindLine_eq, h1, h2, sideOf_ok, sideOf_ok]
  exact if_pos (.of_sides hk (.knownOr (specSlf_tok F o) so) (.knownOr (specElf_tok F o) eo))

end SeekL1
end Sk
