/-
  SkModel.Proofs.Seek4Spec — helper facts for C04: when `Spec.sincePosition` is a given line
  start, the end of the file, or 0; the control flow of `applyToFile` once its lookups are
  known; hypothesis H1 from the executable check `Spec.datedMonotone`.
-/
import SkModel.Proofs.Seek4Lines

namespace Sk.C04

/-- the window test of `Spec.firstInWindow` -/
def inWin (ts : Nat → Option Int) (since : Int) (s : Nat) : Bool :=
  match ts s with
  | some d => d ≥ since
  | none => false

theorem firstInWindow_eq (F : FileV) (ts : Nat → Option Int) (since : Int) :
    Spec.firstInWindow F ts since = (Spec.lineStarts F).find? (inWin ts since) := rfl

theorem inWin_iff {ts : Nat → Option Int} {since : Int} {s : Nat} :
    inWin ts since s = true ↔ ∃ d, ts s = some d ∧ since ≤ d := by
  unfold inWin
  cases ts s <;> simp

theorem lineStarts_sorted (F : FileV) : (Spec.lineStarts F).Pairwise (· < ·) :=
  List.Pairwise.filter _ List.pairwise_lt_range

variable {F : FileV} {ts : Nat → Option Int} {since : Int}

theorem sincePosition_start {s : Nat} (hs : IsStart F s) (hw : inWin ts since s = true)
    (hmin : ∀ s', IsStart F s' → s' < s → inWin ts since s' = false) :
    Spec.sincePosition F ts since = s := by
  unfold Spec.sincePosition
  rw [firstInWindow_eq]
  unfold Spec.lineStarts
  rw [List.find?_filter, List.find?_range_eq_some.2
    ⟨by simpa [hw] using hs.2, List.mem_range.2 hs.1, fun j hj => ?_⟩]
  have := hs.1
  cases hq : (decide (j = 0) || F.isLF (j - 1)) with
  | false => simp
  | true => simp [hmin j ⟨by omega, by simpa using hq⟩ hj]

theorem firstInWindow_none (h : ∀ s, IsStart F s → inWin ts since s = false) :
    Spec.firstInWindow F ts since = none := by
  rw [firstInWindow_eq]
  exact List.find?_eq_none.2 fun s hs => by
    rw [h s ((mem_lineStarts F s).1 hs)]; exact Bool.false_ne_true

theorem sincePosition_len {s0 : Nat} (hs0 : IsStart F s0) (hd0 : (ts s0).isSome = true)
    (h : ∀ s, IsStart F s → inWin ts since s = false) :
    Spec.sincePosition F ts since = F.len := by
  unfold Spec.sincePosition
  rw [firstInWindow_none h]
  exact if_pos (List.any_eq_true.2 ⟨s0, (mem_lineStarts F s0).2 hs0, hd0⟩)

theorem sincePosition_zero (h : Und F ts 0 F.len) : Spec.sincePosition F ts since = 0 := by
  have hn : ∀ s, IsStart F s → ts s = none := fun s hs => h s (Nat.zero_le _) hs.1 hs
  unfold Spec.sincePosition
  rw [firstInWindow_none fun s hs => by unfold inWin; rw [hn s hs]]
  refine if_neg fun hany => ?_
  obtain ⟨s, hs, hd⟩ := List.any_eq_true.1 hany
  rw [hn s ((mem_lineStarts F s).1 hs)] at hd
  cases hd

variable {K : SeekK} {r0 : Option LLine}

theorem apply_shortcut (h0 : twdLoop K F ts false K.ATT F.len none = .ok r0) (d : Int)
    (hd : ts 0 = some d) (hge : since ≤ d) : applyToFile K F ts since = .ok 0 := by
  unfold applyToFile seekerRun tryFindLineWithDate
  rw [h0]
  simp [bind, Except.bind, hd, hge]
  rfl

/-- `BisSt.foundAny` only chooses between `tooManyUndated` and `noTimestamps`, and `applyToFile`
    maps both to position 0: the right-hand side does not mention it -/
theorem apply_bisect (h0 : twdLoop K F ts false K.ATT F.len none = .ok r0)
    (hs : ∀ d, ts 0 = some d → d < since) :
    applyToFile K F ts since =
      match bisectLoop K F ts since (F.len + 1) 0 F.len {} with
      | .ok (_, st) =>
        .ok (match st.lineInfo with | some l => l.startOffset.toNat | none => F.len)
      | .error (.assertFailed, _) => .error .assertFailed
      | .error (.tooManyUndated, _) => .ok 0
      | .error (.noTimestamps, _) => .ok 0
      | .error (_, _) => .ok F.len := by
  unfold applyToFile seekerRun tryFindLineWithDate
  rw [h0]
  simp only [bind, Except.bind]
  rw [if_neg]
  · cases bisectLoop K F ts since (F.len + 1) 0 F.len {} with
    | ok p => obtain ⟨_, _, li⟩ := p; cases li <;> rfl
    | error p => obtain ⟨e, fa, _⟩ := p; cases e <;> cases fa <;> rfl
  · cases hd : ts 0 with
    | none => simp
    | some d => have := hs d hd; simp; omega

theorem chain_pairwise : ∀ (l : List Int),
    (l.zip l.tail).all (fun p => decide (p.1 ≤ p.2)) = true → l.Pairwise (· ≤ ·)
  | [] => fun _ => List.Pairwise.nil
  | [_] => fun _ => List.pairwise_cons.2 ⟨(by intro a h; cases h), List.Pairwise.nil⟩
  | a :: b :: t => by
    intro h
    simp only [List.tail_cons, List.zip_cons_cons, List.all_cons, Bool.and_eq_true,
      decide_eq_true_eq] at h
    have ih := chain_pairwise (b :: t) (by simpa using h.2)
    refine List.pairwise_cons.2 ⟨?_, ih⟩
    intro x hx
    rcases List.mem_cons.1 hx with hx | hx
    · rw [hx]; exact h.1
    · exact Int.le_trans h.1 ((List.pairwise_cons.1 ih).1 x hx)

theorem sorted_filterMap (ts : Nat → Option Int) (L : List Nat) (hL : L.Pairwise (· < ·))
    (hP : (L.filterMap ts).Pairwise (· ≤ ·)) :
    ∀ s1 ∈ L, ∀ s2 ∈ L, s1 ≤ s2 →
      ∀ d1 d2, ts s1 = some d1 → ts s2 = some d2 → d1 ≤ d2 := by
  rw [List.pairwise_filterMap] at hP
  intro s1 h1 s2 h2 hle d1 d2 e1 e2
  refine List.Pairwise.forall_of_forall_of_flip
    (R := fun a b => a ≤ b → ∀ d1 d2, ts a = some d1 → ts b = some d2 → d1 ≤ d2) ?_
    (hP.imp fun h _ d1 d2 e1 e2 => h d1 e1 d2 e2) (hL.imp fun h h' => by omega) h1 h2 hle d1 d2 e1 e2
  intro x _ _ d1 d2 e1 e2
  rw [e1] at e2
  cases e2
  exact Int.le_refl _

/-- the executable check `Spec.datedMonotone` implies hypothesis H1 of C04 -/
theorem mono_of_datedMonotone (F : FileV) (ts : Nat → Option Int)
    (h : Spec.datedMonotone F ts = true) :
    ∀ s1 ∈ Spec.lineStarts F, ∀ s2 ∈ Spec.lineStarts F, s1 ≤ s2 →
      ∀ d1 d2, ts s1 = some d1 → ts s2 = some d2 → d1 ≤ d2 :=
  sorted_filterMap ts _ (lineStarts_sorted F) (chain_pairwise _ h)

end Sk.C04
