/-
  SkModel.Proofs.SeekGov — `getItem` (`__getitem__` of the since-seeker) returns the
  dated line that governs an offset: the last dated line at or before the line containing
  the offset, else the first dated line after it; `tooManyUndated` iff no line is dated.

  Everything here meets the two chunked scans of C11 only through `ScansExact`: they return
  the line feeds the specification names.  The steps of the two walks of `twdLoop` are
  first brought into a form that speaks of `Spec.lineStart` / `Spec.lineEnd` only.
-/
import SkModel.Proofs.Seek4Lines
import SkModel.Proofs.SeekShape

namespace Sk.C04
open SeekL1 SeekShape

def ScansExact (K : SeekK) (F : FileV) : Prop :=
  ∀ o, o ≤ F.len →
    findToken K F o = .ok (specElf F o) ∧ findTokenReverse K F o = .ok (specSlf F o)

variable {K : SeekK} {F : FileV} {ts : Nat → Option Int}

theorem twdLoop_zero (K : SeekK) (F : FileV) (ts : Nat → Option Int) (fwd : Bool)
    (off : Nat) (lfo : Option Int) : twdLoop K F ts fwd 0 off lfo = .ok none := rfl

theorem back_step (hX : ScansExact K F) (ts : Nat → Option Int) (o : Nat) (ho : o ≤ F.len)
    (elfo : Option Int) (helf : ∀ p, elfo = some p → p ≤ F.len ∧ (o : Int) ≤ p) (fuel : Nat) :
    twdLoop K F ts false (fuel + 1) o elfo =
      match ts (Spec.lineStart F o) with
      | some _ => .ok (some ⟨specSlf F o, knownOr (specElf F o) elfo⟩)
      | none =>
        if Spec.lineStart F o ≤ 1 then .ok none
        else twdLoop K F ts false fuel (Spec.lineStart F o - 2)
          (some ((Spec.lineStart F o : Int) - 1)) := by
  rw [twdLoop]
  -- the one `tryFindLine` call is replaced by its exact value (`tryFindLine_exact`, its side
  -- conditions given inline); what remains is the case on the date and offset arithmetic
  simp only [Bool.false_eq_true, if_false,
    tryFindLine_exact (hX o ho).1 (hX o ho).2 none elfo ⟨nofun, helf⟩, bind, Except.bind,
    LLine.date, knownOr, specSlf_start, Int.toNat_natCast, specSlf_off]
  have := Spec.lineStart_le F o
  cases ts (Spec.lineStart F o) with
  | some _ => rfl
  | none =>
    by_cases h1 : Spec.lineStart F o ≤ 1
    · exact (if_pos (by omega)).trans (if_pos h1).symm
    · refine (if_neg (by omega)).trans (Eq.trans ?_ (if_neg h1).symm)
      rw [show (((Spec.lineStart F o - 1 : Nat) : Int) - 1).toNat = Spec.lineStart F o - 2 by omega,
        show ((Spec.lineStart F o - 1 : Nat) : Int) = (Spec.lineStart F o : Int) - 1 by omega]

theorem fwd_step (hX : ScansExact K F) (ts : Nat → Option Int) (e : Nat) (he : e < F.len)
    (fuel : Nat) :
    twdLoop K F ts true (fuel + 1) (e + 1) (some (e : Int)) =
      match ts (e + 1) with
      | some _ => .ok (some ⟨.found (e : Int), specElf F (e + 1)⟩)
      | none =>
        if Spec.lineEnd F (e + 1) < F.len then
          twdLoop K F ts true fuel (Spec.lineEnd F (e + 1) + 1) (some (Spec.lineEnd F (e + 1) : Int))
        else .ok none := by
  rw [twdLoop]
  -- as in `back_step`: `tryFindLine` by its exact value, then the case on the date
  simp only [if_true, tryFindLine_exact (hX (e + 1) he).1 (hX (e + 1) he).2 (some (e : Int)) none
    ⟨fun _ h => by cases h; omega, nofun⟩, bind, Except.bind, LLine.date, LLine.startOffset,
    knownOr, show ((e : Int) + 1).toNat = e + 1 by omega, specElf_off F (e + 1) he]
  cases ts (e + 1) with
  | some _ => rfl
  | none =>
    by_cases h1 : Spec.lineEnd F (e + 1) < F.len
    · refine (if_neg (by omega)).trans (Eq.trans ?_ (if_pos h1).symm)
      rw [show ((Spec.lineEnd F (e + 1) : Int) + 1).toNat = Spec.lineEnd F (e + 1) + 1 by omega]
    · exact (if_pos (by omega)).trans (if_neg h1).symm

/-- Walking back from the line that starts at `s`, the next lookup is at `s - 2` with the end line
    feed `s - 1` known, and the backward scan sees only line feeds below `s - 2`.  So when the line
    before is EMPTY (a line feed at `s - 2` too), the `LLine` built spans the line before the empty
    one and the empty one and is dated by the former's start: the empty line at `s - 1` is never
    looked at.  That is why `TsOk.1` (empty lines are undated) is needed. -/
theorem und_gap_back (hT : TsOk F ts) (s : Nat) (hs : Spec.Boundary F s) :
    Und F ts (Spec.lineStart F (s - 2) + 1) s := by
  intro x h1 hx hxs
  have := start_le_lineStart F x (s - 2) hxs
  rcases hs with h | h
  · omega
  · exact hT.1 x hxs (by rw [show x = s - 1 by omega]; exact h.2)

/-- Outcome of a backward walk from the line that starts at `s0`.  That the attempts ran out is
    recorded as `fuel` undated line starts in a row, which `Spec.longestUndatedRun` bounds. -/
def BackOut (F : FileV) (ts : Nat → Option Int) (fuel s0 : Nat) : Option LLine → Prop
  | some l => ∃ d : Nat, l.startOffset = (d : Int) ∧ IsStart F d ∧ (ts d).isSome = true ∧
      d ≤ s0 ∧ Und F ts (d + 1) (s0 + 1)
  | none => Und F ts 0 (s0 + 1) ∨ fuel ≤ U F ts (s0 + 1)

/-- also from `o = len`: the "check last line" lookup of `run` -/
theorem back_walk (hX : ScansExact K F) (hT : TsOk F ts) :
    ∀ (fuel o : Nat) (elfo : Option Int), o ≤ F.len →
      (∀ p, elfo = some p → p ≤ F.len ∧ (o : Int) ≤ p) →
      ∃ r, twdLoop K F ts false fuel o elfo = .ok r ∧
        BackOut F ts fuel (Spec.lineStart F o) r := by
  intro fuel
  induction fuel with
  | zero => exact fun o elfo _ _ => ⟨none, rfl, Or.inr (Nat.zero_le _)⟩
  | succ fuel ih =>
    intro o elfo ho helf
    rw [back_step hX ts o ho elfo helf fuel]
    have hst := (Spec.lineStart_props F o).1
    have hle := Spec.lineStart_le F o
    cases hd : ts (Spec.lineStart F o) with
    | some d =>
      exact ⟨_, rfl, _, specSlf_start F o _,
        ⟨hT.lt_len hd (by omega), hst.imp_right And.right⟩, by simp [hd],
        Nat.le_refl _, fun s h1 h2 => by omega⟩
    | none =>
      have hself := Und.single (F := F) hd
      simp only []
      split
      · -- start of file reached; the line before, if any, is the empty line at 0
        refine ⟨none, rfl, Or.inl (Und.append (fun s _ h2 hs => hT.1 s hs ?_) hself)⟩
        rcases hst with h | h
        · omega
        · rw [show s = Spec.lineStart F o - 1 by omega]; exact h.2
      · obtain ⟨r, hr1, hr2⟩ := ih (Spec.lineStart F o - 2)
          (some ((Spec.lineStart F o : Int) - 1)) (by omega) (by intro p hp; cases hp; omega)
        have hgap := und_gap_back hT _ hst
        have := Spec.lineStart_le F (Spec.lineStart F o - 2)
        refine ⟨r, hr1, ?_⟩
        cases r with
        | some l =>
          obtain ⟨d, e1, e2, e3, e4, e5⟩ := hr2
          exact ⟨d, e1, e2, e3, by omega, (e5.append hgap).append hself⟩
        | none =>
          refine hr2.imp (fun h => (h.append hgap).append hself) fun hu => ?_
          have := U_succ_start _ hst hd
          have := U_le_of_und _ _ (by omega) (by omega) hgap
          show fuel + 1 ≤ U F ts (Spec.lineStart F o + 1)
          omega

/-- The same for a forward walk from the line that starts at `e + 1`; `x` is where it stopped. -/
def FwdOut (F : FileV) (ts : Nat → Option Int) (fuel e : Nat) : Option LLine → Prop
  -- `l.slf` is recorded because it refutes the restart test of `getItem` (`hc` of `getItem_keep`)
  | some l => ∃ d : Nat, l.startOffset = (d : Int) ∧ l.slf = .found ((d : Int) - 1) ∧
      IsStart F d ∧ (ts d).isSome = true ∧ e + 1 ≤ d ∧ Und F ts (e + 1) d
  | none => ∃ x, x ≤ F.len ∧ Und F ts (e + 1) x ∧
      (x = F.len ∨ U F ts (e + 1) + fuel ≤ U F ts x)

theorem fwd_walk (hX : ScansExact K F) (hT : TsOk F ts) :
    ∀ (fuel e : Nat), e < F.len → F.isLF e = true →
      ∃ r, twdLoop K F ts true fuel (e + 1) (some (e : Int)) = .ok r ∧ FwdOut F ts fuel e r := by
  intro fuel
  induction fuel with
  | zero =>
    exact fun e he _ => ⟨none, rfl, e + 1, he, fun s h1 h2 => by omega, Or.inr (Nat.le_refl _)⟩
  | succ fuel ih =>
    intro e he hlf
    rw [fwd_step hX ts e he fuel]
    have hend := Spec.le_lineEnd F (e + 1) he
    cases hd : ts (e + 1) with
    | some d =>
      refine ⟨_, rfl, e + 1, ?_, ?_, ⟨hT.lt_len hd he, Or.inr (by simpa using hlf)⟩, by simp [hd],
        Nat.le_refl _, fun s h1 h2 => by omega⟩
      · simp only [LLine.startOffset]; omega
      · show Tok.found (e : Int) = Tok.found (((e + 1 : Nat) : Int) - 1)
        congr 1; omega
    | none =>
      -- the undated line at `e + 1`, and no other line starts up to its line feed
      have hgap : Und F ts (e + 1) (Spec.lineEnd F (e + 1) + 1) := by
        have := und_in_line (F := F) (ts := ts) (e + 1)
        rw [Spec.lineStart_succ, if_pos (by simp [he, hlf])] at this
        exact (Und.single hd).append this
      simp only []
      split
      · rename_i h1
        obtain ⟨r, hr1, hr2⟩ := ih _ h1 ((Spec.lineEnd_props F (e + 1)).1 h1)
        refine ⟨r, hr1, ?_⟩
        cases r with
        | some l =>
          obtain ⟨d, c1, c2, c3, c4, c5, c6⟩ := hr2
          exact ⟨d, c1, c2, c3, c4, by omega, hgap.append c6⟩
        | none =>
          obtain ⟨x, x1, x2, x3⟩ := hr2
          refine ⟨x, x1, hgap.append x2, x3.imp id fun hu => ?_⟩
          have := U_succ_start (F := F) (e + 1) (Or.inr ⟨he, by simpa using hlf⟩) hd
          have := U_le_of_und (F := F) (e + 1 + 1) _ (by omega) (by omega)
            (hgap.mono (Nat.le_succ _) (Nat.le_refl _))
          show U F ts (e + 1) + (fuel + 1) ≤ U F ts x
          omega
      · exact ⟨none, rfl, F.len, Nat.le_refl _, hgap.mono (Nat.le_refl _) (by omega), Or.inl rfl⟩

/-- `getItem_keep`, `getItem_restart`: the two ways `getItem` ends when the backward walk found
    nothing (`hb`).  It keeps the answer of the forward walk; or that answer is the tail of `off`'s
    own line and it walks forward once more, from the end of that line. -/
theorem getItem_keep (off : Nat) (r : Option LLine)
    (hb : twdLoop K F ts false K.ATT off none = .ok none)
    (h : twdLoop K F ts true K.ATT (off + 1) (some (off : Int)) = .ok r)
    (hc : ∀ l, r = some l → ¬(l.slf.off = off ∧ (!(off < F.len && F.isLF off)) = true)) :
    getItem K F ts off = fin r := by
  rw [getItem_eq]
  unfold tryFindLineWithDate
  rw [hb, h]
  cases r with
  | none => rfl
  | some l => exact if_neg (hc l rfl)

theorem getItem_restart (hX : ScansExact K F) (off : Nat) (ho : off < F.len)
    (hlf : ¬F.isLF off = true) (hb : twdLoop K F ts false K.ATT off none = .ok none)
    (hA : 0 < K.ATT) (hd : (ts (off + 1)).isSome = true) :
    getItem K F ts off =
      if Spec.lineEnd F (off + 1) < F.len then
        (twdLoop K F ts true K.ATT (Spec.lineEnd F (off + 1) + 1)
          (some (Spec.lineEnd F (off + 1) : Int))).bind fin
      else .error .tooManyUndated := by
  obtain ⟨A, hAtt⟩ : ∃ A, K.ATT = A + 1 := ⟨K.ATT - 1, by omega⟩
  obtain ⟨d, hd⟩ := Option.isSome_iff_exists.1 hd
  have hstep := fwd_step hX ts off ho A
  rw [← hAtt, hd] at hstep
  rw [getItem_eq]
  unfold tryFindLineWithDate
  rw [hb, hstep]
  refine (if_pos ⟨rfl, by simp [hlf]⟩).trans ?_
  rw [specElf_eq]
  by_cases h1 : Spec.lineEnd F (off + 1) < F.len
  · rw [if_pos h1, if_pos h1]
    show (twdLoop K F ts true K.ATT ((Spec.lineEnd F (off + 1) : Int) + 1).toNat _).bind fin = _
    rw [show ((Spec.lineEnd F (off + 1) : Int) + 1).toNat = Spec.lineEnd F (off + 1) + 1 by omega]
  · rw [if_neg h1, if_neg h1]

/-- `d` is the start of the dated line governing offset `off`: the last dated line at or
    before the line containing `off`, else the first dated line of the file -/
def Gov (F : FileV) (ts : Nat → Option Int) (off d : Nat) : Prop :=
  IsStart F d ∧ (ts d).isSome = true ∧
    ((d ≤ Spec.lineStart F off ∧ Und F ts (d + 1) (Spec.lineStart F off + 1)) ∨
     (Spec.lineStart F off < d ∧ Und F ts 0 d))

/-- what `getItem` answers when it is in the end a forward walk from the line feed `e`, with
    nothing dated up to the line of `off` and no dated line starting from there to `e` (at the call
    sites no line starts there at all).  `f` is the number of attempts that walk had: `K.ATT`, or
    `K.ATT - 1` when its first lookup went on the tail of `off`'s own line (`hf` covers both). -/
theorem fwd_gov (hR : Spec.longestUndatedRun F ts + 1 ≤ K.ATT) (off e f : Nat)
    (r : Option LLine) (ho : off < F.len) (hL : Spec.lineStart F off ≤ e) (he : e < F.len)
    (hB : Und F ts 0 (Spec.lineStart F off + 1))
    (hin : Und F ts (Spec.lineStart F off + 1) (e + 1))
    (hf : K.ATT ≤ f + 1) (h : FwdOut F ts f e r) :
    (fin r = .error .tooManyUndated ∧ Und F ts 0 F.len) ∨
    (∃ (l : LLine) (d : Nat), fin r = .ok l ∧ l.startOffset = (d : Int) ∧ Gov F ts off d) := by
  have hLs := lineStart_isStart F off ho
  have h0 := hB.append hin
  cases r with
  | some l =>
    obtain ⟨d, c1, _, c3, c4, c5, c6⟩ := h
    exact Or.inr ⟨l, d, rfl, c1, c3, c4, Or.inr ⟨by omega, h0.append c6⟩⟩
  | none =>
    obtain ⟨x, x1, x2, x3⟩ := h
    -- the line of `off` is itself undated, so one attempt less is still enough: unless `x = len`,
    -- `U x ≥ U (e + 1) + f ≥ U (lineStart off + 1) + f = U (lineStart off) + 1 + f ≥ ATT > run ≥ U x`
    have := U_succ_start _ hLs.boundary (hB _ (Nat.zero_le _) (by omega) hLs)
    have := U_le_of_und _ _ (by omega) (by omega) hin
    have := U_le_run (F := F) (ts := ts) x x1
    exact Or.inl ⟨rfl, (show x = F.len by omega) ▸ h0.append x2⟩

/-- The form the development uses (`position_core`).  In Theorems/C04, `getItem_gov` is this with
    `ScansExact` discharged from the longest line, `C04_getItem` says it in `Spec.*` terms only. -/
theorem getItem_gov_of_exact (hX : ScansExact K F) (hT : TsOk F ts)
    (hR : Spec.longestUndatedRun F ts + 1 ≤ K.ATT) (off : Nat) (ho : off < F.len) :
    (getItem K F ts off = .error .tooManyUndated ∧ Und F ts 0 F.len) ∨
    (∃ (l : LLine) (d : Nat), getItem K F ts off = .ok l ∧ l.startOffset = (d : Int) ∧
      Gov F ts off d) := by
  obtain ⟨r, hr1, hr2⟩ := back_walk hX hT K.ATT off none (by omega) (by intro p hp; cases hp)
  have hLle := Spec.lineStart_le F off
  cases r with
  | some l =>
    obtain ⟨d, e1, e2, e3, e4, e5⟩ := hr2
    refine Or.inr ⟨l, d, ?_, e1, e2, e3, Or.inl ⟨e4, e5⟩⟩
    rw [getItem_eq]
    unfold tryFindLineWithDate
    rw [hr1]
    rfl
  | none =>
    have hB : Und F ts 0 (Spec.lineStart F off + 1) := hr2.resolve_right fun h => by
      have := U_le_run (F := F) (ts := ts) (Spec.lineStart F off + 1) (by omega)
      omega
    by_cases hlf : F.isLF off = true
    · -- `off` is the line feed of its line: the forward walk starts at the next line
      obtain ⟨r2, f1, f2⟩ := fwd_walk hX hT K.ATT off ho hlf
      rw [getItem_keep off r2 hr1 f1 (by simp [ho, hlf])]
      exact fwd_gov hR off off K.ATT r2 ho hLle ho hB
        ((und_in_line off).mono (Nat.le_refl _) (by have := Spec.le_lineEnd F off (by omega); omega))
        (by omega) f2
    · -- `off` is inside its line: the first forward lookup sees the tail of that line, and the
      -- walk goes on (or starts again) at the line after it
      have hend := Spec.le_lineEnd F (off + 1) ho
      have hin : Und F ts (Spec.lineStart F off + 1) (Spec.lineEnd F (off + 1) + 1) := by
        have := und_in_line (F := F) (ts := ts) (off + 1)
        rwa [Spec.lineStart_succ, if_neg (by simp [hlf])] at this
      have hall : ¬Spec.lineEnd F (off + 1) < F.len → Und F ts 0 F.len :=
        fun h1 => hB.append (hin.mono (Nat.le_refl _) (by omega))
      cases hd : ts (off + 1) with
      | some dd =>
        rw [getItem_restart hX off ho hlf hr1 (by omega) (by simp [hd])]
        split
        · rename_i h1
          obtain ⟨r3, f1, f2⟩ := fwd_walk hX hT K.ATT _ h1 ((Spec.lineEnd_props F (off + 1)).1 h1)
          rw [f1]
          exact fwd_gov hR off _ K.ATT r3 ho (by omega) h1 hB hin (by omega) f2
        · exact Or.inl ⟨rfl, hall (by assumption)⟩
      | none =>
        obtain ⟨A, hA⟩ : ∃ A, K.ATT = A + 1 := ⟨K.ATT - 1, by omega⟩
        have hstep := fwd_step hX ts off ho A
        rw [← hA, hd] at hstep
        simp only [] at hstep
        split at hstep
        · rename_i h1
          obtain ⟨r3, f1, f2⟩ := fwd_walk hX hT A _ h1 ((Spec.lineEnd_props F (off + 1)).1 h1)
          rw [getItem_keep off r3 hr1 (hstep.trans f1) ?_]
          · exact fwd_gov hR off _ A r3 ho (by omega) h1 hB hin (by omega) f2
          · intro l hl hc
            subst hl
            obtain ⟨d, _, c2, _, _, c5, _⟩ := f2
            rw [c2] at hc
            simp only [Tok.off] at hc
            omega
        · rw [getItem_keep off none hr1 hstep fun l h => by cases h]
          exact Or.inl ⟨rfl, hall (by assumption)⟩

theorem gov_mono (o1 o2 d1 d2 : Nat) (h : o1 ≤ o2)
    (g1 : Gov F ts o1 d1) (g2 : Gov F ts o2 d2) : d1 ≤ d2 := by
  have hL := Spec.lineStart_mono F o1 o2 h
  obtain ⟨a1, a2, a3⟩ := g1
  obtain ⟨b1, b2, b3⟩ := g2
  refine Nat.le_of_not_lt fun hlt => ?_
  rcases a3 with ⟨a3, _⟩ | ⟨_, a4⟩
  · rcases b3 with ⟨_, b4⟩ | ⟨b3, _⟩
    · exact b4.not_dated a1 a2 (by omega) (by omega)
    · omega
  · exact a4.not_dated b1 b2 (Nat.zero_le _) hlt

theorem gov_unique (o d1 d2 : Nat) (g1 : Gov F ts o d1) (g2 : Gov F ts o d2) : d1 = d2 :=
  Nat.le_antisymm (gov_mono o o d1 d2 (Nat.le_refl _) g1 g2)
    (gov_mono o o d2 d1 (Nat.le_refl _) g2 g1)

theorem gov_self (s : Nat) (hs : IsStart F s) (hd : (ts s).isSome = true) : Gov F ts s s := by
  refine ⟨hs, hd, Or.inl ?_⟩
  rw [lineStart_self F s hs]
  exact ⟨Nat.le_refl _, fun x a1 a2 => by omega⟩

end Sk.C04
