/-
  The fault transition system `SkModel.Fault` (a crash or a raise inside a multi-process run):
  its inductive invariant `Inv`, progress (in every non-final state that satisfies it some enabled
  fault-free step lowers a rank), and the counter-model without the reclaim step, in which an
  orphaned lock blocks for ever.
-/
import SkModel.Fault
import SkModel.Proofs.Trans

namespace Sk.Flt

theorem updF_apply (f : Nat → FWPc) (w : Nat) (v : FWPc) (x : Nat) :
    updF f w v x = if x = w then v else f x := rfl

@[simp] theorem updF_same (f : Nat → FWPc) (w : Nat) (v : FWPc) : updF f w v w = v := by
  simp [updF]

@[simp] theorem updF_other (f : Nat → FWPc) {w x : Nat} (v : FWPc) (h : x ≠ w) :
    updF f w v x = f x := by
  simp [updF, h]

theorem allDead_iff (s : FState) : s.allDead = true ↔ ∀ w, w < s.n → s.ws w = .dead := by
  simp [FState.allDead, List.all_eq_true]

theorem allDone_iff (s : FState) : s.allDone = true ↔ ∀ w, w < s.n → s.ws w = .done := by
  simp [FState.allDone, List.all_eq_true]

theorem quiet_iff (s : FState) :
    s.quiet = true ↔ ∀ w, w < s.n → (s.ws w = .done ∨ s.ws w = .dead) := by
  simp [FState.quiet, List.all_eq_true]

theorem final_iff (s : FState) : s.final = true ↔ (s.main = .raised ∨ s.main = .returned) := by
  simp [FState.final]

theorem final_false_iff (s : FState) :
    s.final = false ↔ (s.main ≠ .raised ∧ s.main ≠ .returned) := by
  simp [FState.final]

/-- the main thread is past the point where it deals with the store lock -/
def Late (m : FMain) : Prop :=
  m = .joinResults ∨ m = .joinInfo ∨ m = .teardown ∨ m = .raised ∨ m = .returned

structure Inv (n : Nat) (s : FState) : Prop where
  -- `fstep` reads the number of workers from the state (`w < s.n`) and never writes it
  hn : s.n = n
  /-- a worker that owns the lock is inside a locked region - or died there -/
  lockW : ∀ w, s.lock = some (.worker w) →
    w < n ∧ (s.ws w = .inAlloc ∨ s.ws w = .inSync ∨ s.ws w = .dead)
  ownW : ∀ w, (s.ws w = .inAlloc ∨ s.ws w = .inSync) → s.lock = some (.worker w)
  lockI : s.lock = some .info ↔ s.info = .holding
  lockM : s.lock = some .main ↔ s.main = .holdsLock
  deadBroken : ∀ w, s.ws w = .dead → s.broken = true
  -- `crash` needs `main = waiting`; a broken run leaves it by `mainSeesBroken` only, ends `raised`
  brokenMain : s.broken = true → s.main ≠ .shutdownWait ∧ s.main ≠ .returned
  swFailed : s.main = .shutdownWait → s.failed = true
  -- the guard of `mainSeesBroken`, the only step into `reclaim`; `dead`, `broken` are never undone
  reclaimDead : (s.main = .reclaim ∨ s.main = .holdsLock) →
    s.broken = true ∧ ∀ w, w < n → s.ws w = .dead
  -- a late phase is entered from `reclaim` / `holdsLock` with the lock let go, or by `mainAllDone`,
  -- which needs `!broken`; after that `broken` cannot change (`crash` needs `main = waiting`)
  lateBroken : Late s.main → s.broken = true →
    (∀ w, w < n → s.ws w = .dead) ∧ ∀ w, s.lock ≠ some (.worker w)
  lateClean : Late s.main → s.broken = false → ∀ w, w < n → s.ws w = .done
  infoStopped : s.info = .stopped ↔
    (s.main = .teardown ∨ s.main = .raised ∨ s.main = .returned)
  joined : (s.main = .joinInfo ∨ s.main = .teardown ∨ s.main = .raised ∨ s.main = .returned) →
    s.resultsJoined = true
  raisedWhy : s.main = .raised → (s.failed = true ∨ s.broken = true)
  returnedWhy : s.main = .returned → s.failed = false ∧ s.broken = false

theorem inv_init (n : Nat) : Inv n (FState.init n) := by
  constructor <;> simp [FState.init, Late]

theorem fstep_mainAllDone {s s' : FState} : fstep s .mainAllDone = some s' ↔
    (s.main = .waiting ∧ s.failed = false ∧ s.broken = false ∧ s.allDone = true ∨
      s.main = .shutdownWait ∧ s.broken = false ∧ s.quiet = true) ∧
    { s with main := .joinResults } = s' := by
  simp only [fstep, Bool.not_eq_true']
  split
  · next hg => simp [hg]
  · next hg => simp [hg]

theorem fstep_mainReclaim {s s' : FState} : fstep s .mainReclaim = some s' ↔
    ∃ w, s.lock = some (.worker w) ∧ (s.main = .reclaim ∧ s.ws w = .dead) ∧
      { s with main := .joinResults, lock := none } = s' := by
  simp only [fstep]
  split
  · next w hl => simp [hl]
  · next hl => simpa using fun w hw => absurd hw (hl w)

theorem Inv.waiting_of_active {n : Nat} {s : FState} {w : Nat} (hi : Inv n s) (hw : w < s.n)
    (hnd : s.ws w ≠ .done) (hna : s.ws w ≠ .dead) :
    s.main = .waiting ∨ s.main = .shutdownWait := by
  have hw := hi.hn ▸ hw
  have quiet (hl : Late s.main) : False := by
    cases hb : s.broken with
    | true => exact hna ((hi.lateBroken hl hb).1 w hw)
    | false => exact hnd (hi.lateClean hl hb w hw)
  cases hm : s.main with
  | waiting => exact .inl rfl
  | shutdownWait => exact .inr rfl
  | reclaim => exact absurd ((hi.reclaimDead (.inl hm)).2 w hw) hna
  | holdsLock => exact absurd ((hi.reclaimDead (.inr hm)).2 w hw) hna
  | _ => exact (quiet (by simp [Late, hm])).elim

theorem late_lock {n : Nat} {s : FState} (hi : Inv n s) (hl : Late s.main) :
    s.lock = none ∨ s.lock = some .info := by
  match hk : s.lock with
  | none => exact .inl rfl
  | some .info => exact .inr rfl
  | some .main => simp [Late, hi.lockM.mp hk] at hl
  | some (.worker w) =>
    have hw := hi.lockW w hk
    cases hb : s.broken with
    | true => exact absurd hk ((hi.lateBroken hl hb).2 w)
    | false => simp [hi.lateClean hl hb w hw.1] at hw

/-- One statement for every move of a live worker from `p` to `x`: `hlk` says that afterwards it
    owns the lock iff `x` is a locked region, and has let go of it if `p` was one. -/
theorem Inv.worker {n : Nat} {s : FState} {w : Nat} {p x : FWPc} {lk : Option FOwner}
    (hi : Inv n s) (hw : w < s.n) (hs : s.ws w = p) (hp : p ≠ .done ∧ p ≠ .dead) (hx : x ≠ .dead)
    (hlk : lk = if x = .inAlloc ∨ x = .inSync then some (.worker w)
                else if p = .inAlloc ∨ p = .inSync then none else s.lock)
    (hfree : (x = .inAlloc ∨ x = .inSync) → s.lock = none ∨ s.lock = some (.worker w)) :
    Inv n { s with ws := updF s.ws w x, lock := lk } := by
  have hwait : ¬ (s.main = .reclaim ∨ s.main = .holdsLock) ∧ ¬ Late s.main := by
    rcases hi.waiting_of_active hw (hs ▸ hp.1) (hs ▸ hp.2) with h | h <;> simp [h, Late]
  -- `lockW` / `ownW` survive because `hlk` ties the new lock to the new pc of `w`; for `v ≠ w`
  -- the lock moves only from or to `worker w`, which `v` in a locked region rules out (`ownW`,
  -- `hfree`).
  -- `grind` splits on `v = w` and on `hlk`; each call is given the clauses it needs
  have lockW := hi.lockW
  have ownW := hi.ownW
  have hn := hi.hn
  exact { hi with
    lockW := by simp only [updF_apply]; grind
    ownW := by simp only [updF_apply]; grind
    lockI := by have := hi.lockI; grind
    lockM := by have := hi.lockM; grind
    deadBroken := by have := hi.deadBroken; simp only [updF_apply]; grind
    reclaimDead := fun h => absurd h hwait.1
    lateBroken := fun h => absurd h hwait.2
    lateClean := fun h => absurd h hwait.2 }

/-- `crash` (one worker dies, `b` is `true`) and `killAll` (all die; `b` is `s.broken`, which the
    guard says is set). -/
theorem Inv.deaths {n : Nat} {s : FState} {ws' : Nat → FWPc} {b : Bool} (hi : Inv n s)
    (hd : ∀ v, ws' v = s.ws v ∨ ws' v = .dead) (hb : b = true)
    (hm : s.broken = true ∨ s.main = .waiting) : Inv n { s with ws := ws', broken := b } := by
  subst hb
  have hdead {v} (h : s.ws v = .dead) : ws' v = .dead := by rcases hd v with e | e <;> simp [e, h]
  have hnr : s.main ≠ .shutdownWait ∧ s.main ≠ .returned := by
    rcases hm with h | h
    · exact hi.brokenMain h
    · simp [h]
  exact { hi with
    lockW := fun v hv => by
      have := hi.lockW v hv
      rcases hd v with e | e <;> simp [e, this]
    ownW := fun v hv => by
      rcases hd v with e | e
      · exact hi.ownW v (e ▸ hv)
      · simp [e] at hv
    deadBroken := fun _ _ => rfl
    brokenMain := fun _ => hnr
    reclaimDead := fun h => ⟨rfl, fun v hv => hdead ((hi.reclaimDead h).2 v hv)⟩
    lateBroken := fun hl _ => by
      rcases hm with h | h
      · have := hi.lateBroken hl h
        exact ⟨fun v hv => hdead (this.1 v hv), this.2⟩
      · simp [Late, h] at hl
    lateClean := nofun
    raisedWhy := fun _ => .inr rfl
    returnedWhy := fun h => absurd h hnr.2 }

theorem Inv.unlock {n : Nat} {s : FState} (hi : Inv n s)
    (hm : s.main = .reclaim ∨ s.main = .holdsLock) (hl : s.lock ≠ some .info) :
    Inv n { s with main := .joinResults, lock := none } := by
  have ⟨hb, hd⟩ := hi.reclaimDead hm
  have hm' : s.main ≠ .teardown ∧ s.main ≠ .raised ∧ s.main ≠ .returned := by
    rcases hm with e | e <;> simp [e]
  exact { hi with
    lockW := nofun
    ownW := fun v hv => by
      -- a worker inside a locked region owns the lock, so it is one of the `n`, all dead
      have := hd v (hi.lockW v (hi.ownW v hv)).1
      simp [this] at hv
    lockI := by simpa [hl] using hi.lockI
    lockM := by simp
    brokenMain := fun _ => ⟨nofun, nofun⟩
    swFailed := nofun
    reclaimDead := nofun
    lateBroken := fun _ _ => ⟨hd, nofun⟩
    lateClean := by simp [hb]
    infoStopped := by simpa [hm'] using hi.infoStopped
    joined := nofun
    raisedWhy := nofun
    returnedWhy := nofun }

theorem Inv.late {n : Nat} {s : FState} (hi : Inv n s) (hl : Late s.main) {m : FMain} {i : FInfo}
    {j : Bool} (hm : Late m) (lockI : s.lock = some .info ↔ i = .holding)
    (infoStopped : i = .stopped ↔ (m = .teardown ∨ m = .raised ∨ m = .returned))
    (joined : (m = .joinInfo ∨ m = .teardown ∨ m = .raised ∨ m = .returned) → j = true)
    (raisedWhy : m = .raised → (s.failed = true ∨ s.broken = true))
    (returnedWhy : m = .returned → s.failed = false ∧ s.broken = false) :
    Inv n { s with main := m, info := i, resultsJoined := j } := by
  have hM : s.lock ≠ some .main := fun h => by simp [Late, hi.lockM.mp h] at hl
  have hm' : m ≠ .shutdownWait ∧ m ≠ .reclaim ∧ m ≠ .holdsLock := by
    rcases hm with e | e | e | e | e <;> simp [e]
  exact { hi with
    lockI, infoStopped, joined, raisedWhy, returnedWhy
    lockM := by simp [hM, hm']
    brokenMain := fun hb => ⟨hm'.1, fun e => by simp [(returnedWhy e).2] at hb⟩
    swFailed := fun e => absurd e hm'.1
    reclaimDead := fun e => by simp [hm'] at e
    lateBroken := fun _ => hi.lateBroken hl
    lateClean := fun _ => hi.lateClean hl }

/-- The main thread moves, without touching the lock, from where it waits for the workers to one
    of the three phases that can follow.  Every field about a later phase is vacuous before and
    after; what is asked for is what the new phase claims about the flags and the workers. -/
theorem Inv.early {n : Nat} {s : FState} (hi : Inv n s)
    (hs : s.main = .waiting ∨ s.main = .shutdownWait) {m : FMain}
    (hm : m = .shutdownWait ∨ m = .reclaim ∨ m = .joinResults)
    (swFailed : m = .shutdownWait → s.failed = true ∧ s.broken = false)
    (reclaimDead : m = .reclaim → s.broken = true ∧ ∀ w, w < n → s.ws w = .dead)
    (lateClean : m = .joinResults → s.broken = false ∧ ∀ w, w < n → s.ws w = .done) :
    Inv n { s with main := m } := by
  have hs' : s.main ≠ .holdsLock ∧ s.main ≠ .teardown ∧ s.main ≠ .raised ∧ s.main ≠ .returned := by
    rcases hs with e | e <;> simp [e]
  have hm' : m ≠ .holdsLock ∧ m ≠ .joinInfo ∧ m ≠ .teardown ∧ m ≠ .raised ∧ m ≠ .returned := by
    rcases hm with e | e | e <;> simp [e]
  have hj (hl : Late m) : m = .joinResults := by simpa [Late, hm'] using hl
  exact { hi with
    lockM := by simpa [hs', hm'] using hi.lockM
    brokenMain := fun hb => ⟨fun e => by simp [(swFailed e).2] at hb, hm'.2.2.2.2⟩
    swFailed := fun e => (swFailed e).1
    reclaimDead := fun e => reclaimDead (e.resolve_right hm'.1)
    lateBroken := fun hl hb => by simp [(lateClean (hj hl)).1] at hb
    lateClean := fun hl _ => (lateClean (hj hl)).2
    infoStopped := by simpa [hs', hm'] using hi.infoStopped
    joined := by simp [hm']
    raisedWhy := fun e => absurd e hm'.2.2.2.1
    returnedWhy := fun e => absurd e hm'.2.2.2.2 }

/-- Once the guard of the label is split off, `s'` is `s` with a few components replaced, so a
    field that reads none of them has its old type: `{ hi with .. }` lists the fields that the
    step touches.  A field whose premise names a main phase other than the new one is vacuous
    (`nofun`). -/
theorem inv_step {n : Nat} {s s' : FState} {l : FLbl} (hi : Inv n s)
    (h : fstep s l = some s') : Inv n s' := by
  cases l
  case mainAllDone =>
    obtain ⟨hg | ⟨hm, hb, hq⟩, rfl⟩ := fstep_mainAllDone.1 h
    · exact hi.early (.inl hg.1) (.inr (.inr rfl)) nofun nofun fun _ =>
        ⟨hg.2.2.1, hi.hn ▸ (allDone_iff s).mp hg.2.2.2⟩
    · refine hi.early (.inr hm) (.inr (.inr rfl)) nofun nofun fun _ => ⟨hb, fun w hw => ?_⟩
      rcases (quiet_iff s).mp hq w (hi.hn ▸ hw) with e | e
      · exact e
      · simp [hi.deadBroken w e] at hb
  case mainReclaim =>
    obtain ⟨w, hl, ⟨hm, -⟩, rfl⟩ := fstep_mainReclaim.1 h
    exact hi.unlock (.inl hm) (by simp [hl])
  -- every other label is one guarded update `if guard then some t else none`, and
  -- `fstep s l = some s'` unfolds to this form by reduction alone
  all_goals replace h := Option.ite_some_none_eq_some.1 h
  case start w | wantAlloc w | wantSync w | relAlloc w | relSync w =>
    obtain ⟨⟨hw, hs⟩, rfl⟩ := h
    exact hi.worker hw hs (by decide) (by decide) (by simp) (by simp)
  case acqAlloc w | acqSync w =>
    obtain ⟨⟨hw, hs, hl⟩, rfl⟩ := h
    exact hi.worker hw hs (by decide) (by decide) (by simp) (by simp [hl])
  case raise_ w =>
    obtain ⟨⟨hw, hs, -⟩, rfl⟩ := h
    have hp : s.ws w ≠ .done ∧ s.ws w ≠ .dead := by rcases hs with e | e | e <;> simp [e]
    have hown : s.lock = some (.worker w) ↔ (s.ws w = .inAlloc ∨ s.ws w = .inSync) :=
      ⟨fun e => by simpa [hp.2] using (hi.lockW w e).2, hi.ownW w⟩
    have := hi.worker (x := .done) (lk := if s.lock = some (.worker w) then none else s.lock)
      hw rfl hp (by decide) (by simp [hown]) (by simp)
    exact { this with
      swFailed := fun _ => rfl
      raisedWhy := fun _ => .inl rfl
      returnedWhy := by rcases hi.waiting_of_active hw hp.1 hp.2 with e | e <;> simp [e] }
  case crash w =>
    obtain ⟨⟨-, -, -, hm⟩, rfl⟩ := h
    exact hi.deaths (fun v => by rw [updF_apply]; split <;> simp) rfl (.inr hm)
  case killAll =>
    obtain ⟨hb, rfl⟩ := h
    exact hi.deaths (fun v => by split <;> simp) hb (.inl hb)
  case infoWant =>
    obtain ⟨hg, rfl⟩ := h
    exact { hi with
      lockI := by simp [hi.lockI, hg]
      infoStopped := by simp [← hi.infoStopped, hg] }
  case infoAcq =>
    obtain ⟨⟨hg, hl⟩, rfl⟩ := h
    exact { hi with
      lockW := nofun
      ownW := by simpa [hl] using hi.ownW
      lockI := by simp
      lockM := by simpa [hl] using hi.lockM
      lateBroken := fun hm hb => ⟨(hi.lateBroken hm hb).1, nofun⟩
      infoStopped := by simp [← hi.infoStopped, hg] }
  case infoRel =>
    obtain ⟨hg, rfl⟩ := h
    have hl := hi.lockI.mpr hg
    exact { hi with
      lockW := nofun
      ownW := by simpa [hl] using hi.ownW
      lockI := by simp
      lockM := by simpa [hl] using hi.lockM
      lateBroken := fun hm hb => ⟨(hi.lateBroken hm hb).1, nofun⟩
      infoStopped := by simp [← hi.infoStopped, hg] }
  case mainSeesFailure =>
    obtain ⟨⟨hm, hf, hb⟩, rfl⟩ := h
    exact hi.early (.inl hm) (.inl rfl) (fun _ => ⟨hf, by simpa using hb⟩) nofun nofun
  case mainSeesBroken =>
    obtain ⟨⟨hm, hb, hd⟩, rfl⟩ := h
    exact hi.early hm (.inr (.inl rfl)) nofun (fun _ => ⟨hb, hi.hn ▸ (allDead_iff s).mp hd⟩) nofun
  case mainAcquire =>
    obtain ⟨⟨hm, hl⟩, rfl⟩ := h
    exact { hi with
      lockW := nofun
      ownW := by simpa [hl] using hi.ownW
      lockI := by simpa [hl] using hi.lockI
      lockM := by simp
      brokenMain := fun _ => ⟨nofun, nofun⟩
      swFailed := nofun
      reclaimDead := fun _ => hi.reclaimDead (.inl hm)
      lateBroken := nofun
      lateClean := nofun
      infoStopped := by simpa [hm] using hi.infoStopped
      joined := nofun
      raisedWhy := nofun
      returnedWhy := nofun }
  case mainRelease =>
    obtain ⟨hm, rfl⟩ := h
    exact hi.unlock (.inr hm) (by simp [hi.lockM.mpr hm])
  case joinResults =>
    obtain ⟨hm, rfl⟩ := h
    exact hi.late (by simp [Late, hm]) (by simp [Late]) hi.lockI
      (by simpa [hm] using hi.infoStopped) (joined := fun _ => rfl) nofun nofun
  case joinInfo =>
    obtain ⟨⟨hm, hg⟩, rfl⟩ := h
    exact hi.late (by simp [Late, hm]) (by simp [Late]) (by simpa [hg] using hi.lockI) (by simp)
      (joined := fun _ => hi.joined (.inl hm)) nofun nofun
  case teardown =>
    obtain ⟨hm, rfl⟩ := h
    have hl : Late s.main := by simp [Late, hm]
    have hI : s.info = .stopped := hi.infoStopped.mpr (.inl hm)
    have hJ := hi.joined (.inr (.inl hm))
    split
    next hfb =>
      exact hi.late hl (by simp [Late]) hi.lockI (by simpa using hI) (fun _ => hJ)
        (raisedWhy := fun _ => hfb) nofun
    next hfb =>
      exact hi.late hl (by simp [Late]) hi.lockI (by simpa using hI) (fun _ => hJ) nofun
        (returnedWhy := fun _ => by simpa using hfb)

theorem frun_eq_run (s : FState) (ls : List FLbl) : frun s ls = LTS.run fstep s ls := by
  induction ls generalizing s with
  | nil => rfl
  | cons l ls ih => cases h : fstep s l <;> simp [frun, LTS.run_cons, h, ih]

theorem frun_cons {s t : FState} {l : FLbl} (ls : List FLbl) (h : fstep s l = some t) :
    frun s (l :: ls) = frun t ls := by
  rw [frun_eq_run, frun_eq_run]; exact LTS.run_cons_of h ls

theorem frun_append {a : List FLbl} {s t : FState} (b : List FLbl) (h : frun s a = some t) :
    frun s (a ++ b) = frun t b := by
  rw [frun_eq_run] at h
  simp [frun_eq_run, LTS.run_append, h]

theorem inv_run {n : Nat} {ls : List FLbl} : ∀ {s s' : FState}, Inv n s → frun s ls = some s' → Inv n s' :=
  fun hi h => LTS.run_inv inv_step hi (frun_eq_run .. ▸ h)

-- Trap: the catch-all makes a label added to `FLbl` "no fault": the fault-free steps and schedules
-- of `C10_main_progress`, `C10_no_stuck`, `C10_clean_run_never_blocks` then admit it silently.
def isFault : FLbl → Bool
  | .crash _ => true
  | .raise_ _ => true
  | _ => false

/-- a schedule without `crash` / `raise_`; `killAll`, the executor's reaction to a crash, is no
    fault of its own -/
def Clean (ls : List FLbl) : Prop := ∀ l, l ∈ ls → isFault l = false

/-- fault-free reachability as a relation on states; it keeps `failed` and `broken` (`drv_flags`) -/
def Drv (s s' : FState) : Prop := ∃ ls, Clean ls ∧ frun s ls = some s'

/-- what a fault-free move of a worker or of the info thread leaves unchanged -/
structure Frame (s s' : FState) : Prop where
  n : s'.n = s.n
  main : s'.main = s.main
  failed : s'.failed = s.failed
  broken : s'.broken = s.broken
  done : ∀ v, s.ws v = .done → s'.ws v = .done

/-- a worker's shortest way to `done`, plus one so that dying lowers it too -/
def wrank : FWPc → Nat
  | .dead => 0 | .done => 1 | .inSync => 2 | .wantSync => 3 | .running => 4
  | .inAlloc => 5 | .idle => 5 | .wantAlloc => 6

/-- the info thread is only ever driven forward: `waiting`, `holding`, `idle` -/
def irank : FInfo → Nat
  | .waiting => 2 | .holding => 1 | .idle => 0 | .stopped => 0

def mrank : FMain → Nat
  | .waiting => 7 | .shutdownWait => 6 | .reclaim => 5 | .holdsLock => 4
  | .joinResults => 3 | .joinInfo => 2 | .teardown => 1 | .raised => 0 | .returned => 0

/-- The rank of a state adds up, thread by thread, a bound on the steps still to be taken on the way
    the progress argument drives that thread.  No step that the argument takes raises any of the
    summands, so a plain sum will do where one would expect a lexicographic order. -/
def rank (s : FState) : Nat :=
  mrank s.main + irank s.info + ((List.range s.n).map fun w => wrank (s.ws w)).sum

theorem wrank_pos {x : FWPc} : x ≠ .dead → 0 < wrank x := by
  cases x <;> simp [wrank]

def Lowers (s : FState) : Prop := ∃ l t, isFault l = false ∧ fstep s l = some t ∧ rank t < rank s

theorem lowers_ws {s : FState} {l : FLbl} {w : Nat} {x : FWPc} {lk : Option FOwner}
    (hl : isFault l = false) (h : fstep s l = some { s with ws := updF s.ws w x, lock := lk })
    (hw : w < s.n) (hlt : wrank x < wrank (s.ws w)) : Lowers s := by
  refine ⟨l, _, hl, h, Nat.add_lt_add_left
    (LTS.sum_map_lt (a := w) (fun v _ => ?_) (List.mem_range.2 hw) ?_) _⟩ <;> simp only [updF_apply]
  · split
    · next e => exact e ▸ Nat.le_of_lt hlt
    · exact Nat.le_refl _
  · simpa using hlt

theorem progress_lock {n : Nat} {s : FState} (hi : Inv n s) (hb : s.broken = false)
    (hm : s.main = .waiting ∨ s.main = .shutdownWait) : s.lock = none ∨ Lowers s := by
  cases hl : s.lock with
  | none => exact .inl rfl
  | some o =>
    right
    cases o with
    | main =>
      have := hi.lockM.mp hl
      rcases hm with h | h <;> simp [h] at this
    | info =>
      have hinfo := hi.lockI.mp hl
      exact ⟨.infoRel, _, rfl, if_pos hinfo, by simp [rank, hinfo, irank]⟩
    | worker w =>
      have ⟨hw, hs⟩ := hi.lockW w hl
      have hw : w < s.n := hi.hn ▸ hw
      rcases hs with hs | hs | hs
      · exact lowers_ws (l := .relAlloc w) rfl (if_pos ⟨hw, hs⟩) hw (by rw [hs]; decide)
      · exact lowers_ws (l := .relSync w) rfl (if_pos ⟨hw, hs⟩) hw (by rw [hs]; decide)
      · have := hi.deadBroken w hs
        simp [hb] at this

theorem progress_wait {n : Nat} {s : FState} (hi : Inv n s)
    (hw : s.main = .waiting ∨ s.main = .shutdownWait) : Lowers s := by
  cases hb : s.broken with
  | true =>
    have hm : s.main = .waiting := hw.resolve_right (hi.brokenMain hb).1
    by_cases hd : s.allDead = true
    · exact ⟨.mainSeesBroken, _, rfl, if_pos ⟨.inl hm, hb, hd⟩, by simp [rank, hm, mrank]⟩
    · rw [allDead_iff] at hd
      obtain ⟨v, hv, hnd⟩ : ∃ v, v < s.n ∧ s.ws v ≠ .dead := by simpa using hd
      refine ⟨.killAll, _, rfl, if_pos hb, ?_⟩
      exact Nat.add_lt_add_left (LTS.sum_map_lt (a := v)
        (fun u hu => by simp [List.mem_range.1 hu, wrank]) (List.mem_range.2 hv)
        (by simp only [hv, if_true]; exact wrank_pos hnd)) _
  | false =>
    have hnb : (!s.broken) = true := by simp [hb]
    by_cases hd : s.allDone = true
    · rcases hw with hm | hm
      · cases hf : s.failed with
        | false =>
          exact ⟨_, _, rfl, fstep_mainAllDone.2 ⟨.inl ⟨hm, hf, hb, hd⟩, rfl⟩, by simp [rank, hm, mrank]⟩
        | true => exact ⟨.mainSeesFailure, _, rfl, if_pos ⟨hm, hf, hnb⟩, by simp [rank, hm, mrank]⟩
      · have hq : s.quiet = true :=
          (quiet_iff s).mpr fun v hv => .inl ((allDone_iff s).mp hd v hv)
        exact ⟨_, _, rfl, fstep_mainAllDone.2 ⟨.inr ⟨hm, hb, hq⟩, rfl⟩, by simp [rank, hm, mrank]⟩
    · rw [allDone_iff] at hd
      obtain ⟨v, hv, hnd⟩ : ∃ v, v < s.n ∧ s.ws v ≠ .done := by simpa using hd
      have hl := progress_lock hi hb hw
      cases hs : s.ws v with
      | done => exact absurd hs hnd
      | dead => have := hi.deadBroken v hs; simp [hb] at this
      | idle => exact lowers_ws (l := .start v) rfl (if_pos ⟨hv, hs⟩) hv (by rw [hs]; decide)
      | running => exact lowers_ws (l := .wantSync v) rfl (if_pos ⟨hv, hs⟩) hv (by rw [hs]; decide)
      | inAlloc => exact lowers_ws (l := .relAlloc v) rfl (if_pos ⟨hv, hs⟩) hv (by rw [hs]; decide)
      | inSync => exact lowers_ws (l := .relSync v) rfl (if_pos ⟨hv, hs⟩) hv (by rw [hs]; decide)
      | wantAlloc =>
        rcases hl with hl | hl
        · exact lowers_ws (l := .acqAlloc v) rfl (if_pos ⟨hv, hs, hl⟩) hv (by rw [hs]; decide)
        · exact hl
      | wantSync =>
        rcases hl with hl | hl
        · exact lowers_ws (l := .acqSync v) rfl (if_pos ⟨hv, hs, hl⟩) hv (by rw [hs]; decide)
        · exact hl

theorem progress {n : Nat} {s : FState} (hi : Inv n s) (hf : s.final = false) : Lowers s := by
  cases hm : s.main with
  | raised | returned => simp [FState.final, hm] at hf
  | waiting | shutdownWait => exact progress_wait hi (by simp [hm])
  | teardown =>
    refine ⟨.teardown, _, rfl, if_pos hm, ?_⟩
    simp only [rank, hm]
    split <;> simp [mrank]
  | joinResults => exact ⟨.joinResults, _, rfl, if_pos hm, by simp [rank, hm, mrank]⟩
  | holdsLock => exact ⟨.mainRelease, _, rfl, if_pos hm, by simp [rank, hm, mrank]⟩
  | joinInfo =>
    cases hinfo : s.info with
    | idle => exact ⟨.joinInfo, _, rfl, if_pos ⟨hm, hinfo⟩, by simp [rank, hm, hinfo, mrank, irank]⟩
    | holding => exact ⟨.infoRel, _, rfl, if_pos hinfo, by simp [rank, hinfo, irank]⟩
    | waiting =>
      have hl : s.lock = none := by
        rcases late_lock hi (by simp [Late, hm]) with h | h
        · exact h
        · have := hi.lockI.mp h; simp [hinfo] at this
      exact ⟨.infoAcq, _, rfl, if_pos ⟨hinfo, hl⟩, by simp [rank, hinfo, irank]⟩
    | stopped =>
      have := hi.infoStopped.mp hinfo
      simp [hm] at this
  | reclaim =>
    cases hl : s.lock with
    | none => exact ⟨.mainAcquire, _, rfl, if_pos ⟨hm, hl⟩, by simp [rank, hm, mrank]⟩
    | some o =>
      cases o with
      | worker w =>
        -- the lock is orphaned by a dead worker: the reclaim step, the heart of the repair
        have hd : s.ws w = .dead := (hi.reclaimDead (.inl hm)).2 w (hi.lockW w hl).1
        exact ⟨_, _, rfl, fstep_mainReclaim.2 ⟨w, hl, ⟨hm, hd⟩, rfl⟩, by simp [rank, hm, mrank]⟩
      | info =>
        have hinfo := hi.lockI.mp hl
        exact ⟨.infoRel, _, rfl, if_pos hinfo, by simp [rank, hinfo, irank]⟩
      | main =>
        have := hi.lockM.mp hl
        simp [hm] at this

theorem clean_step_flags {s s' : FState} {l : FLbl} (h : fstep s l = some s')
    (hl : isFault l = false) : s'.failed = s.failed ∧ s'.broken = s.broken := by
  cases l
  case crash | raise_ => cases hl
  case mainAllDone => obtain ⟨-, rfl⟩ := fstep_mainAllDone.1 h; exact ⟨rfl, rfl⟩
  case mainReclaim => obtain ⟨w, -, -, rfl⟩ := fstep_mainReclaim.1 h; exact ⟨rfl, rfl⟩
  all_goals
    obtain ⟨-, rfl⟩ := Option.ite_some_none_eq_some.1 h
    exact ⟨rfl, rfl⟩

theorem clean_run_flags {ls : List FLbl} {s s' : FState} (hc : Clean ls)
    (h : frun s ls = some s') : s'.failed = s.failed ∧ s'.broken = s.broken :=
  LTS.run_induct (C := fun s ls s' => Clean ls → s'.failed = s.failed ∧ s'.broken = s.broken)
    (fun _ _ => ⟨rfl, rfl⟩)
    (fun hst _ ih hc => by
      have h1 := clean_step_flags hst (hc _ (by simp))
      have h2 := ih fun x hx => hc x (by simp [hx])
      exact ⟨h2.1.trans h1.1, h2.2.trans h1.2⟩)
    (frun_eq_run .. ▸ h) hc

theorem drv_flags {s s' : FState} (h : Drv s s') :
    s'.failed = s.failed ∧ s'.broken = s.broken := by
  obtain ⟨ls, c, r⟩ := h
  exact clean_run_flags c r

theorem final_clean_returned {n : Nat} {s : FState} (hi : Inv n s) (hf : s.final = true)
    (h1 : s.failed = false) (h2 : s.broken = false) : s.main = .returned := by
  rcases (final_iff s).mp hf with h | h
  · rcases hi.raisedWhy h with h' | h' <;> simp_all
  · exact h

/-- `fstep` with `mainReclaim` removed (the code before the repair) -/
def fstepNR (s : FState) (l : FLbl) : Option FState :=
  if l = .mainReclaim then none else fstep s l

def frunNR (s : FState) : List FLbl → Option FState
  | [] => some s
  | l :: ls => match fstepNR s l with
    | some s' => frunNR s' ls
    | none => none

theorem frunNR_eq_run (s : FState) (ls : List FLbl) : frunNR s ls = LTS.run fstepNR s ls := by
  induction ls generalizing s with
  | nil => rfl
  | cons l ls ih => cases h : fstepNR s l <;> simp [frunNR, LTS.run_cons, h, ih]

structure Orphan (s : FState) : Prop where
  main : s.main = .reclaim
  owner : ∃ w, s.lock = some (.worker w) ∧ s.ws w = .dead
  dead : ∀ v, v < s.n → s.ws v = .dead
  info : s.info ≠ .holding

theorem orphan_enabled {s s' : FState} {l : FLbl} (ho : Orphan s) (h : fstepNR s l = some s') :
    l = .infoWant ∨ l = .killAll := by
  obtain ⟨hm, ⟨w, hl, -⟩, hdead, hinfo⟩ := ho
  cases l
  case infoWant | killAll => simp
  case mainReclaim => cases h
  case mainAllDone => simp [fstepNR, fstep, hm] at h
  -- every other guard asks for a live worker, a free lock, the info thread inside its use of the
  -- lock, or another main phase
  all_goals have hg := (Option.ite_some_none_eq_some.1 h).1
  case start v | wantAlloc v | acqAlloc v | relAlloc v | wantSync v | acqSync v | relSync v |
      crash v | raise_ v =>
    have := hdead v hg.1
    simp [this, FWPc.alive] at hg
  case infoAcq | mainAcquire => simp [hl] at hg
  case infoRel => exact absurd hg hinfo
  all_goals simp [hm] at hg

theorem orphan_step {s s' : FState} {l : FLbl} (ho : Orphan s) (h : fstepNR s l = some s') :
    Orphan s' := by
  have ⟨hm, ⟨w, hl, hd⟩, hdead, hinfo⟩ := ho
  rcases orphan_enabled ho h with rfl | rfl <;> obtain ⟨-, rfl⟩ := Option.ite_some_none_eq_some.1 h
  · exact ⟨hm, ⟨w, hl, hd⟩, hdead, nofun⟩
  · exact ⟨hm, ⟨w, hl, by simp [hd]⟩, fun v hv => by simp [hv], hinfo⟩

theorem orphan_run {ls : List FLbl} : ∀ {s s' : FState}, Orphan s → frunNR s ls = some s' →
    Orphan s' :=
  fun ho h => LTS.run_inv orphan_step ho (frunNR_eq_run .. ▸ h)

theorem orphan_of_inv {n : Nat} {s : FState} {w : Nat} (hi : Inv n s) (hm : s.main = .reclaim)
    (hl : s.lock = some (.worker w)) : Orphan s := by
  have hd := (hi.reclaimDead (Or.inl hm)).2
  refine ⟨hm, ⟨w, hl, hd w (hi.lockW w hl).1⟩, fun v hv => hd v (hi.hn ▸ hv), ?_⟩
  intro h
  have := hi.lockI.mpr h
  rw [hl] at this; cases this

theorem orphan_blocked {s : FState} (ho : Orphan s) :
    s.final = false ∧ fstepNR s .mainAcquire = none := by
  refine ⟨by simp [FState.final, ho.main], ?_⟩
  cases h : fstepNR s .mainAcquire with
  | none => rfl
  | some t => rcases orphan_enabled ho h with e | e <;> cases e

/-- first-order view of a state (`FState.ws` is a function), so that concrete schedules can be
    evaluated by `decide` -/
structure View where
  ws : List FWPc
  lock : Option FOwner
  info : FInfo
  main : FMain
  broken : Bool
  failed : Bool
  resultsJoined : Bool
deriving DecidableEq, Repr

def view (s : FState) : View :=
  ⟨(List.range s.n).map s.ws, s.lock, s.info, s.main, s.broken, s.failed, s.resultsJoined⟩

def runView (n : Nat) (ls : List FLbl) : Option View := (frun (FState.init n) ls).map view

end Sk.Flt
