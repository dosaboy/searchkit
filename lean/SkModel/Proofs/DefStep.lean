/-
  SkModel.Proofs.DefStep — one definition on its own: what it does on a line (`defStep`),
  over the lines (`soloLoop`) and at end of file (`eofDef`).  Per model function, what it
  returns: the values a result carries, whose it is, and the state invariant `DInv`.
-/
import SkModel.Proofs.Solo
import SkModel.Proofs.SeqPlan
import SkModel.Spec.Simple

namespace Sk

theorem savePart_val {fields idx v p} (h : savePart fields idx v = .ok p) : p.val = v := by
  unfold savePart at h
  split at h
  · split at h
    · cases h
    · split at h <;> cases h
      rfl
  · cases h; rfl

theorem savePartsFrom_val {fields : Option (List String)} : ∀ {vs : List (Option Val)} {k ps},
    savePartsFrom fields k vs = .ok ps → ps.map (·.val) = vs
  | [], _, _, h => by cases h; rfl
  | v :: vs, k, ps, h => by
    simp only [savePartsFrom, bind_ok, pure_ok] at h
    obtain ⟨p, h1, ps', h2, rfl⟩ := h
    simp [savePart_val h1, savePartsFrom_val h2]

theorem mkParts_val {d : SDef} {m : Match} {ps} (h : mkParts d m = .ok ps) :
    ps.map (·.val) = Spec.values d m := by
  unfold mkParts at h
  unfold Spec.values
  split at h
  · cases h; rw [if_pos ‹_›]; rfl
  · rw [if_neg ‹_›]
    split at h
    · simp only [bind_ok, pure_ok] at h
      obtain ⟨p, h1, rfl⟩ := h
      rw [if_pos ‹_›, List.map_singleton, savePart_val h1]
    · rw [if_neg ‹_›]; exact savePartsFrom_val h

theorem mkSeqRes_ok {id s sfx sd ln sec m r} (h : mkSeqRes id s sfx sd ln sec m = .ok r) :
    r.src = id ∧ r.seqId = some id ∧
      r.view = (some (id, sec), some (s.tag ++ sfx), ln, Spec.values sd m) := by
  simp only [mkSeqRes, bind_ok, pure_ok] at h
  obtain ⟨ps, hps, rfl⟩ := h
  exact ⟨rfl, rfl, by simp [Res.view, Res.iter, seqTagOf, mkParts_val hps]⟩

theorem mkSimpleRes_ok {id sd ln m r} (h : mkSimpleRes id sd ln m = .ok r) :
    r.src = id ∧ (r.ln, r.iter) = (ln, Spec.values sd m) ∧
      r.tag = sd.tag ∧ r.seqId = none ∧ r.sec = none ∧ r.fields = sd.fields := by
  simp only [mkSimpleRes, bind_ok, pure_ok] at h
  obtain ⟨ps, hps, rfl⟩ := h
  exact ⟨rfl, by simp [Res.iter, mkParts_val hps], rfl, rfl, rfl, rfl⟩

/-- the sequence results held are the definition's own.  The second clause is there for the `order`
    bookkeeping of `runTask_proj`: a definition that never filed a sequence result is not in
    `order`, and `eofDef` must then report nothing for it (`eofDef_notAdded`). -/
def DInv (id : Nat) (st : DSt) : Prop :=
  (∀ r ∈ st.seqRes, r.src = id ∧ r.seqId = some id) ∧
    (st.everAdded = false → st.seqRes = [] ∧ st.started = false)

theorem DInv_init (d : Def) : DInv d.id (DSt.init d) := by
  simp [DInv, DSt.init]

theorem exec_keeps {st st' : DSt} {id s ln p} (h : st.exec id s ln p = .ok st') :
    st'.runnable = st.runnable ∧ (st.everAdded = true → st'.everAdded = true) ∧
      (DInv id st → DInv id st') := by
  cases p with
  | idle => cases h; exact ⟨rfl, fun h => h, fun h => h⟩
  | file drop =>
    obtain ⟨r, hr, rfl⟩ := exec_file_ok.mp h
    refine ⟨rfl, fun _ => rfl, fun hi => ⟨fun r' hr' => ?_, fun h => nomatch h⟩⟩
    rcases List.mem_append.mp hr' with h | h
    · cases drop
      · exact hi.1 r' h
      · exact hi.1 r' (List.mem_filter.mp h).1
    · rw [List.mem_singleton.mp h]
      exact ⟨(mkSeqRes_ok hr).1, (mkSeqRes_ok hr).2.1⟩

/-! `defStep` is split as `seqStep` is in `Proofs/SeqPlan` (`seqPlan` / `DSt.exec`), one level up:
  `gate` decides from the constraints and `runnable` alone, `defBody` runs the search. -/

/-- `none`: the line is skipped; `some b`: the search runs with `runnable := b` -/
def gate (i : Nat) (d : Def) (runnable : Bool) : Option Bool :=
  if runnable then some true
  else
    let (valid, allp) := applySingle (d.cons.map (fun c => c i))
    if valid then some allp else none

def defBody (i : Nat) (d : Def) (st : DSt) : Except Err (DSt × List Res) :=
  match d.kind with
  | .simple sd =>
    match sd.run i with
    | some m => do
      let r ← mkSimpleRes d.id sd (i + 1) m
      pure (st, [r])
    | none => pure (st, [])
  | .seq s => do
    let st' ← seqStep d.id s i st
    pure (st', [])

theorem defStep_eq (i : Nat) (d : Def) (st : DSt) :
    defStep i d st = match gate i d st.runnable with
      | none => pure (st, [])
      | some b => defBody i d { st with runnable := b } := by
  obtain ⟨r, _⟩ := st
  unfold defStep gate
  cases r
  · generalize applySingle (d.cons.map fun c => c i) = a
    obtain ⟨_ | _, allp⟩ := a <;> rfl
  · rfl

theorem defStep_runnable {i d st} (h : st.runnable = true) : defStep i d st = defBody i d st := by
  obtain ⟨r, _⟩ := st
  cases h
  rfl

theorem defBody_simple {i d sd st} (hk : d.kind = .simple sd) :
    defBody i d st = match sd.run i with
      | some m => mkSimpleRes d.id sd (i + 1) m >>= fun r => pure (st, [r])
      | none => pure (st, []) := by
  simp only [defBody, hk]

theorem defBody_seq {i d s st} (hk : d.kind = .seq s) :
    defBody i d st = seqStep d.id s i st >>= fun st' => pure (st', []) := by
  simp only [defBody, hk]

theorem defBody_keeps {i d st st' o} (h : defBody i d st = .ok (st', o)) :
    st'.runnable = st.runnable ∧ (st.everAdded = true → st'.everAdded = true) ∧
      (DInv d.id st → DInv d.id st') ∧ ∀ r ∈ o, r.src = d.id := by
  cases hk : d.kind with
  | simple sd =>
    rw [defBody_simple hk] at h
    split at h
    · simp only [bind_ok, pure_ok, Prod.mk.injEq] at h
      obtain ⟨r, hr, rfl, rfl⟩ := h
      exact ⟨rfl, fun h => h, fun h => h, by simp [(mkSimpleRes_ok hr).1]⟩
    · cases h; exact ⟨rfl, fun h => h, fun h => h, by simp⟩
  | seq s =>
    simp only [defBody_seq hk, seqStep_eq_exec, bind_ok, pure_ok, Prod.mk.injEq] at h
    obtain ⟨_, hs, rfl, rfl⟩ := h
    exact ⟨(exec_keeps hs).1, (exec_keeps hs).2.1, (exec_keeps hs).2.2, by simp⟩

theorem defStep_cases {i d st st' o} (h : defStep i d st = .ok (st', o)) :
    (st' = st ∧ o = []) ∨ ∃ b, defBody i d { st with runnable := b } = .ok (st', o) := by
  rw [defStep_eq] at h
  split at h
  · cases h; exact Or.inl ⟨rfl, rfl⟩
  · exact Or.inr ⟨_, h⟩

theorem defStep_keeps {i d st st' o} (h : defStep i d st = .ok (st', o)) :
    (st.everAdded = true → st'.everAdded = true) ∧ (DInv d.id st → DInv d.id st') ∧
      ∀ r ∈ o, r.src = d.id := by
  rcases defStep_cases h with ⟨rfl, rfl⟩ | ⟨b, hb⟩
  · exact ⟨fun h => h, fun h => h, by simp⟩
  · exact (defBody_keeps hb).2

theorem defStep_seq_out {i d s st st' o} (hk : d.kind = .seq s)
    (h : defStep i d st = .ok (st', o)) : o = [] := by
  rcases defStep_cases h with ⟨_, rfl⟩ | ⟨b, hb⟩
  · rfl
  · simp only [defBody_seq hk, bind_ok, pure_ok, Prod.mk.injEq] at hb
    obtain ⟨_, _, _, rfl⟩ := hb
    rfl

theorem soloLoop_cons (d : Def) (st : DSt) (i : Nat) (is : List Nat) :
    soloLoop d st (i :: is) = (defStep i d st >>= fun p =>
      soloLoop d p.1 is >>= fun q => pure (q.1, p.2 ++ q.2)) := rfl

theorem soloLoop_cons_ok {d : Def} {st stF : DSt} {i : Nat} {is : List Nat} {out : List Res} :
    soloLoop d st (i :: is) = .ok (stF, out) ↔
      ∃ st1 o os, defStep i d st = .ok (st1, o) ∧ soloLoop d st1 is = .ok (stF, os) ∧
        out = o ++ os := by
  simp only [soloLoop, bind_ok, pure_ok, Prod.mk.injEq, Prod.exists]
  constructor
  · rintro ⟨st1, o, h1, _, os, h2, rfl, rfl⟩; exact ⟨st1, o, os, h1, h2, rfl⟩
  · rintro ⟨st1, o, os, h1, h2, rfl⟩; exact ⟨st1, o, h1, stF, os, h2, rfl, rfl⟩

theorem soloLoop_append (d : Def) : ∀ (xs ys : List Nat) (st : DSt),
    soloLoop d st (xs ++ ys) = (soloLoop d st xs >>= fun p =>
      soloLoop d p.1 ys >>= fun q => pure (q.1, p.2 ++ q.2))
  | [], ys, st => by simp [soloLoop]
  | x :: xs, ys, st => by simp [soloLoop_cons, soloLoop_append d xs ys]

theorem soloLoop_inv {d : Def} : ∀ {is : List Nat} {st stF : DSt} {out : List Res},
    soloLoop d st is = .ok (stF, out) → DInv d.id st → DInv d.id stF
  | [], _, _, _, h, hi => by cases h; exact hi
  | _ :: _, _, _, _, h, hi => by
    obtain ⟨_, _, _, h1, h2, _⟩ := soloLoop_cons_ok.mp h
    exact soloLoop_inv h2 ((defStep_keeps h1).2.1 hi)

theorem soloLoop_seq_out {d s} (hk : d.kind = .seq s) : ∀ {is : List Nat} {st stF : DSt} {out},
    soloLoop d st is = .ok (stF, out) → out = []
  | [], _, _, _, h => by cases h; rfl
  | _ :: _, _, _, _, h => by
    obtain ⟨_, _, _, h1, h2, rfl⟩ := soloLoop_cons_ok.mp h
    rw [defStep_seq_out hk h1, soloLoop_seq_out hk h2]
    rfl

theorem eofDef_src {n d st fin} (h : eofDef n d st = .ok fin) (hi : DInv d.id st) :
    ∀ r ∈ fin, r.src = d.id ∧ r.seqId = some d.id := by
  unfold eofDef at h
  split at h
  · cases h; simp
  · split at h
    · split at h
      · cases h; exact hi.1
      · split at h
        · simp only [bind_ok, pure_ok] at h
          obtain ⟨r, hr, rfl⟩ := h
          intro r' hr'
          rcases List.mem_append.mp hr' with h | h
          · exact hi.1 _ h
          · rw [List.mem_singleton.mp h]
            exact ⟨(mkSeqRes_ok hr).1, (mkSeqRes_ok hr).2.1⟩
        · cases h
          exact fun r hr => hi.1 _ (List.mem_filter.mp hr).1
    · cases h; exact hi.1

theorem eofDef_notAdded {n d st fin} (h : eofDef n d st = .ok fin) (hi : DInv d.id st)
    (he : st.everAdded = false) : fin = [] := by
  obtain ⟨h1, h2⟩ := hi.2 he
  unfold eofDef at h
  split at h
  · cases h; rfl
  · simp only [h2, Bool.false_eq_true, if_false, pure_ok] at h
    rw [← h, h1]

end Sk
