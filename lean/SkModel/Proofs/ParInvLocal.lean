/-
  SkModel.Proofs.ParInvLocal — the invariants of the concurrent store that speak of the local
  stores: every worker's store satisfies the C15 invariant `Store.Inv` with respect to the blocks
  it was granted (2), the shared data holds items of local stores only and all that was synced
  (3), the returned indices resolve in the local store (4), and the program counter keeps the
  books (5).

  `Store.Inv` wants a total, pairwise disjoint supplier, and a worker's `PW.sup` means something
  only below `grants.length`: `supx` continues the granted blocks by fresh ones above the shared
  pointer, disjoint from every granted block because those lie below the pointer (invariant 1).
  A ready micro-op consults the supplier only at a granted block, if at all (`addTo_congr`), so
  it does the same with either.

  Apart from the two clauses on the shared data, invariants 2 to 5 speak of one worker's record
  at a time (`WInv`), so a step re-establishes them for the record it writes and for no other;
  the clauses guarded by the program counter are one assertion per point of the program
  (`BookAt`), so a step that only moves the program counter owes one fact.  The quantified
  forms `Inv2` .. `Inv5` are what the C06 theorems read off, field by field (`i2.linv`,
  `i3.sd_src`, `i4.ret`, `i5.fin`); `Inv.winv` / `Inv.of_winv` go back and forth.
-/
import SkModel.Proofs.ParInv
import SkModel.Proofs.StoreInv

namespace Sk.Par
open StoreInv

theorem needsBlock_some (st : Store) (ns : Ns) (x : Val)
    (hl : (st.rev ns).lookup x = none) (hf : st.data.find? (fun p => p.2 == x) = none) :
    st.needsBlock ns (some x) = st.asksBlock := by
  simp only [Store.needsBlock, hl, hf, Option.isSome_none, Bool.false_eq_true, if_false]
  rw [Store.refresh_eq_ite]
  cases st.asksBlock <;> simp

theorem addTo_congr (st : Store) (ns : Ns) (v : Option Val) {sup1 sup2 : Nat → Nat}
    (h : st.needsBlock ns v = false ∨ sup1 st.nblocks = sup2 st.nblocks) :
    st.addTo sup1 ns v = st.addTo sup2 ns v := by
  cases v with
  | none => rfl
  | some x =>
    simp only [Store.addTo, Store.allocNext]
    cases hl : (st.rev ns).lookup x with
    | some i => rfl
    | none =>
      cases hf : st.data.find? (fun p => p.2 == x) with
      | some p => rfl
      | none =>
        rw [needsBlock_some st ns x hl hf] at h
        have : st.refresh sup1 = st.refresh sup2 := by
          rw [Store.refresh_eq_ite, Store.refresh_eq_ite]
          rcases h with h | h
          · simp [h]
          · rw [h]
        simp only [this]

theorem addTo_grow {st st' : Store} {sup : Nat → Nat} {ns : Ns} {v : Option Val} {r : Option Nat}
    (h : st.addTo sup ns v = .ok (st', r)) :
    st'.data.length ≤ st.data.length + 1 ∧
    (st'.nblocks = st.nblocks ∨ (st.needsBlock ns v = true ∧ st'.nblocks = st.nblocks + 1)) := by
  rcases Store.addTo_ok h with ⟨hd, hn⟩ | ⟨x, i, rfl, hl, hf, hd, hn⟩
  · exact ⟨by rw [hd]; omega, .inl hn⟩
  · rw [hd, hn, needsBlock_some st ns x hl hf, Store.refresh_eq_ite]
    cases st.asksBlock <;> simp

/-- the blocks granted so far, continued by fresh blocks above the pointer -/
def supx (B ptr : Nat) (grants : List Nat) : Nat → Nat := fun k => grants.getD k (ptr + k * B)

theorem supx_lt {B ptr : Nat} {grants : List Nat} {k : Nat} (h : k < grants.length) :
    supx B ptr grants k = grants[k] := by
  simp [supx, List.getD_eq_getElem?_getD, h]

theorem supx_ge {B ptr : Nat} {grants : List Nat} {k : Nat} (h : grants.length ≤ k) :
    supx B ptr grants k = ptr + k * B := by
  simp [supx, List.getD_eq_getElem?_getD, h]

theorem supx_eq_sup {B ptr : Nat} {p : PW} {k : Nat} (h : k < p.grants.length) :
    supx B ptr p.grants k = p.sup k := by
  simp [supx, PW.sup, List.getD_eq_getElem?_getD, h]

theorem supx_disjoint {B ptr : Nat} {grants : List Nat}
    (hbelow : ∀ g, g ∈ grants → g + B ≤ ptr)
    (hdisj : ∀ (i j a b : Nat), grants[i]? = some a → grants[j]? = some b → i ≠ j →
      a + B ≤ b ∨ b + B ≤ a) :
    BlocksDisjoint (supx B ptr grants) B := by
  have key : ∀ i j, i < j → supx B ptr grants i + B ≤ supx B ptr grants j ∨
      supx B ptr grants j + B ≤ supx B ptr grants i := by
    intro i j hij
    by_cases hj : j < grants.length
    · have hi : i < grants.length := by omega
      rw [supx_lt hi, supx_lt hj]
      exact hdisj i j _ _ (List.getElem?_eq_getElem hi) (List.getElem?_eq_getElem hj) (by omega)
    · left
      rw [supx_ge (k := j) (by omega)]
      have : (i + 1) * B ≤ j * B := Nat.mul_le_mul_right B hij
      rw [Nat.succ_mul] at this
      by_cases hi : i < grants.length
      · rw [supx_lt hi]
        have := hbelow _ (List.getElem_mem hi)
        omega
      · rw [supx_ge (by omega)]; omega
  intro i j hne
  rcases Nat.lt_or_gt_of_ne hne with h | h
  · exact key i j h
  · exact (key j i h).symm

theorem inv_congr_supx {B ptr ptr' : Nat} {grants ext : List Nat} {st : Store} (hB : 0 < B)
    (hn : st.nblocks ≤ grants.length) (inv : Store.Inv B true (supx B ptr grants) st) :
    Store.Inv B true (supx B ptr' (grants ++ ext)) st := by
  refine inv.congr_sup hB fun k hk => ?_
  have hk' : k < grants.length := by omega
  rw [supx_lt hk', supx_lt (by simp; omega), List.getElem_append_left hk']

structure Inv2 (B : Nat) (s : PState) : Prop where
  linv : ∀ w, Store.Inv B true (supx B s.ptr (s.ws w).grants) (s.ws w).st
  -- the local store has taken only blocks that were granted
  nb_le : ∀ w, (s.ws w).st.nblocks ≤ (s.ws w).grants.length
  -- at most one granted block is in reserve (granted, not yet taken): `preallocate` is entered
  -- only with none (`lk`).  The measure `wm` hinges on this.
  gl_le : ∀ w, (s.ws w).grants.length ≤ (s.ws w).st.nblocks + 1
  -- inside `preallocate` before the pointer is written: nothing in reserve
  lk : ∀ w, (s.ws w).pc = .locked ∨ (s.ws w).pc = .read1 ∨ (s.ws w).pc = .read2 →
    (s.ws w).grants.length ≤ (s.ws w).st.nblocks

structure Inv3 (s : PState) : Prop where
  -- `sync` only copies: every shared item is an item of some worker's local store
  sd_src : ∀ e, e ∈ s.sdata → ∃ w, e ∈ (s.ws w).st.data
  synced_sub : ∀ w e, e ∈ (s.ws w).synced → e ∈ s.sdata
  done_all : ∀ w, (s.ws w).pc = .done → ∀ e, e ∈ (s.ws w).st.data → e ∈ (s.ws w).synced

structure Inv4 (progs : Nat → List (Ns × Option Val)) (s : PState) : Prop where
  ops_eq : ∀ w, (s.ws w).ops = (progs w).drop (s.ws w).rets.length
  len : ∀ w, (s.ws w).rets.length ≤ (progs w).length
  ret : ∀ (w k : Nat) (op : Ns × Option Val), k < (s.ws w).rets.length → (progs w)[k]? = some op →
    ∃ r, (s.ws w).rets[k]? = some r ∧ (s.ws w).st.Ret op.2 r

structure Inv5 (s : PState) : Prop where
  -- pointer written: the block just granted is in reserve
  wr : ∀ w, (s.ws w).pc = .wrote → (s.ws w).st.nblocks < (s.ws w).grants.length
  -- `sync` is entered only when the program has run to its end
  fin : ∀ w, (s.ws w).pc = .sync ∨ (s.ws w).pc = .done → (s.ws w).ops = []

structure Inv (B : Nat) (progs : Nat → List (Ns × Option Val)) (s : PState) : Prop where
  i1 : Inv1 B s
  i2 : Inv2 B s
  i3 : Inv3 s
  i4 : Inv4 progs s
  i5 : Inv5 s

/-- `Inv2.lk`, `Inv3.done_all` and `Inv5`, read as the assertion attached to each point of a
    worker's program: what it may rely on there about its own record. -/
def BookAt (p : PW) : Prop :=
  match p.pc with
  | .run => True
  | .locked | .read1 | .read2 => p.grants.length ≤ p.st.nblocks
  | .wrote => p.st.nblocks < p.grants.length
  | .sync => p.ops = []
  | .done => p.ops = [] ∧ ∀ e, e ∈ p.st.data → e ∈ p.synced

theorem bookAt_iff (p : PW) : BookAt p ↔
    (p.pc = .locked ∨ p.pc = .read1 ∨ p.pc = .read2 → p.grants.length ≤ p.st.nblocks) ∧
    (p.pc = .wrote → p.st.nblocks < p.grants.length) ∧
    (p.pc = .sync ∨ p.pc = .done → p.ops = []) ∧
    (p.pc = .done → ∀ e, e ∈ p.st.data → e ∈ p.synced) := by
  unfold BookAt
  cases p.pc <;> simp

structure WInv (B ptr : Nat) (prog : List (Ns × Option Val)) (p : PW) : Prop where
  linv : Store.Inv B true (supx B ptr p.grants) p.st
  nb_le : p.st.nblocks ≤ p.grants.length
  gl_le : p.grants.length ≤ p.st.nblocks + 1
  ops_eq : p.ops = prog.drop p.rets.length
  len : p.rets.length ≤ prog.length
  ret : ∀ (k : Nat) (op : Ns × Option Val), k < p.rets.length → prog[k]? = some op →
    ∃ r, p.rets[k]? = some r ∧ p.st.Ret op.2 r
  book : BookAt p

variable {B : Nat} {progs : Nat → List (Ns × Option Val)} {s : PState}

theorem Inv.winv (h : Inv B progs s) (w : Nat) : WInv B s.ptr (progs w) (s.ws w) :=
  ⟨h.i2.linv w, h.i2.nb_le w, h.i2.gl_le w, h.i4.ops_eq w, h.i4.len w, h.i4.ret w,
    (bookAt_iff _).2 ⟨h.i2.lk w, h.i5.wr w, h.i5.fin w, h.i3.done_all w⟩⟩

theorem Inv.of_winv (h1 : Inv1 B s) (hsd : ∀ e, e ∈ s.sdata → ∃ w, e ∈ (s.ws w).st.data)
    (hsy : ∀ w e, e ∈ (s.ws w).synced → e ∈ s.sdata)
    (hw : ∀ w, WInv B s.ptr (progs w) (s.ws w)) : Inv B progs s :=
  have hb := fun w => (bookAt_iff _).1 (hw w).book
  ⟨h1, ⟨fun w => (hw w).linv, fun w => (hw w).nb_le, fun w => (hw w).gl_le, fun w => (hb w).1⟩,
    ⟨hsd, hsy, fun w => (hb w).2.2.2⟩, ⟨fun w => (hw w).ops_eq, fun w => (hw w).len, fun w => (hw w).ret⟩,
    ⟨fun w => (hb w).2.1, fun w => (hb w).2.2.1⟩⟩

theorem inv_init (hB : 0 < B) (progs : Nat → List (Ns × Option Val)) :
    Inv B progs (PState.init B progs) :=
  .of_winv (Inv1.init B progs) (fun e he => by simp [PState.init] at he)
    (fun w e he => by simp [PState.init] at he)
    (fun w => ⟨Store.Inv.init hB true _, Nat.le_refl _, Nat.zero_le _, rfl, Nat.zero_le _,
      fun k op hk => absurd hk (Nat.not_lt_zero k), trivial⟩)

theorem Inv1.supx_disjoint (h : Inv1 B s) (w : Nat) :
    BlocksDisjoint (supx B s.ptr (s.ws w).grants) B :=
  Par.supx_disjoint (h.below w) (fun i j a b h1 h2 hne => h.disj w w i j a b h1 h2 (fun _ => hne))

theorem local_spec (hB : 0 < B) (h1 : Inv1 B s) (h2 : Inv2 B s) (w : Nat)
    {ns : Ns} {v : Option Val} {rest : List (Ns × Option Val)}
    (hops : (s.ws w).ops = (ns, v) :: rest) (hready : (s.ws w).localReady = true) :
    Store.Ok ((s.ws w).st.addTo (s.ws w).sup ns v) fun st' r =>
      (s.ws w).st.data <+: st'.data ∧ st'.Ret v r ∧
      Store.Inv B true (supx B s.ptr (s.ws w).grants) st' ∧
      (s.ws w).st.nblocks ≤ st'.nblocks ∧ st'.nblocks ≤ (s.ws w).grants.length ∧
      st'.data.length ≤ (s.ws w).st.data.length + 1 := by
  obtain ⟨st', r, e, hext, hret, inv'⟩ :=
    (h2.linv w).addTo_spec hB (h1.supx_disjoint w) ns v
  simp only [PW.localReady, hops, Bool.or_eq_true, Bool.not_eq_true', decide_eq_true_eq] at hready
  -- ready: the micro-op sees the same blocks through `PW.sup` and through `supx`
  rw [← addTo_congr (sup1 := (s.ws w).sup) _ _ _
    (hready.imp_right fun h => (supx_eq_sup h).symm)] at e
  obtain ⟨hlen, hnb⟩ := addTo_grow e
  have := h2.nb_le w
  refine ⟨st', r, e, hext, hret, inv', ?_, ?_, hlen⟩
  · rcases hnb with h | ⟨-, h⟩ <;> omega
  · rcases hnb with h | ⟨hn, h⟩
    · omega
    · simp only [hn, Bool.true_eq_false, false_or] at hready
      omega

theorem not_ready {p : PW} (hops : p.ops ≠ []) (hnr : p.localReady = false) :
    p.grants.length ≤ p.st.nblocks := by
  cases ho : p.ops with
  | nil => exact absurd ho hops
  | cons op rest =>
    simp only [PW.localReady, ho, Bool.or_eq_false_iff, decide_eq_false_iff_not] at hnr
    omega

/-- The invariant after worker `w` has written its record (`p'`) and the shared fields.  It owes
    invariant 1 of the new state (`h1`), `WInv` for `p'` (`hw`), that `w`'s local store was only
    extended (`hd`), and three facts on the shared data: it grew only by items of `p'` (`hsd`), it
    kept what it had (`hss`), and it holds what `p'` has synced (`hsy`). -/
theorem Inv.upd (hB : 0 < B) (h : Inv B progs s) {w : Nat} {p' : PW} {ptr' : Nat}
    {lock' : Option Nat} {sdata' : List (Nat × Val)} {srev' : Ns → List (Val × Nat)}
    (h1 : Inv1 B { s with ptr := ptr', lock := lock', sdata := sdata', srev := srev',
                          ws := updW s.ws w p' })
    (hw : WInv B ptr' (progs w) p')
    (hd : (s.ws w).st.data <+: p'.st.data)
    (hsd : ∀ e, e ∈ sdata' → e ∈ s.sdata ∨ e ∈ p'.st.data) (hss : ∀ e, e ∈ s.sdata → e ∈ sdata')
    (hsy : ∀ e, e ∈ p'.synced → e ∈ sdata') :
    Inv B progs { s with ptr := ptr', lock := lock', sdata := sdata', srev := srev',
                         ws := updW s.ws w p' } := by
  refine .of_winv h1 (fun e he => ?_)
    (updW_cases (P := fun _ p => ∀ e, e ∈ p.synced → e ∈ sdata') hsy
      fun x e he => hss e (h.i3.synced_sub x e he))
    (updW_cases hw fun x => ?_)
  · rcases hsd e he with he | he
    · obtain ⟨x, hx⟩ := h.i3.sd_src e he
      exact ⟨x, updW_cases (P := fun x p => e ∈ (s.ws x).st.data → e ∈ p.st.data) (hd.subset ·)
        (fun _ h => h) x hx⟩
    · exact ⟨w, by simpa using he⟩
  · have hx := h.winv x
    exact ⟨by simpa using inv_congr_supx (ext := []) hB hx.nb_le hx.linv, hx.nb_le, hx.gl_le,
      hx.ops_eq, hx.len, hx.ret, hx.book⟩

/-- `Inv.upd` for a step that writes only `pc`, `r1`, `r2` of `w`'s record: beside invariant 1 it
    owes the assertion of the new program point. -/
theorem Inv.ctl (hB : 0 < B) (h : Inv B progs s) {w : Nat} {lock' : Option Nat}
    {srev' : Ns → List (Val × Nat)} {pc' : PPc} {r1' r2' : Nat}
    (h1 : Inv1 B { s with lock := lock', srev := srev',
                          ws := updW s.ws w { s.ws w with pc := pc', r1 := r1', r2 := r2' } })
    (hb : BookAt { s.ws w with pc := pc', r1 := r1', r2 := r2' }) :
    Inv B progs { s with lock := lock', srev := srev',
                         ws := updW s.ws w { s.ws w with pc := pc', r1 := r1', r2 := r2' } } :=
  have hw := h.winv w
  h.upd hB h1 ⟨hw.linv, hw.nb_le, hw.gl_le, hw.ops_eq, hw.len, hw.ret, hb⟩
    (List.prefix_refl _) (fun _ h => .inl h) (fun _ h => h) (h.i3.synced_sub w)

/-- A step that writes only the lock and the shared reverse maps owes invariant 1 only: invariants
    2 to 5 read neither. -/
theorem Inv.shared (h : Inv B progs s) {lock' : Option Nat} {srev' : Ns → List (Val × Nat)}
    (h1 : Inv1 B { s with lock := lock', srev := srev' }) :
    Inv B progs { s with lock := lock', srev := srev' } :=
  .of_winv h1 h.i3.sd_src h.i3.synced_sub h.winv

theorem Step.inv (hB : 0 < B) (h : Inv B progs s) {l : PLbl} {s' : PState} (hs : Step s l s') :
    Inv B progs s' := by
  have h1 := inv1_step h.i1 hs
  cases hs with
  | local_ w ns v rest st' i hpc hready hops hadd =>
    obtain ⟨hext, hret, inv', hle, hge, -⟩ := (local_spec hB h.i1 h.i2 w hops hready).of_eq hadd
    have hw := h.winv w
    have hd := hw.ops_eq
    rw [hops] at hd
    have hn : (progs w)[(s.ws w).rets.length]? = some (ns, v) := by
      rw [← List.head?_drop, ← hd]; rfl
    have hlt := (List.getElem?_eq_some_iff.mp hn).1
    refine h.upd hB h1 ⟨inv', hge, ?_, ?_, ?_, ?_, ?_⟩ hext (fun _ h => .inl h)
      (fun _ h => h) (h.i3.synced_sub w)
    · have := hw.gl_le; show (s.ws w).grants.length ≤ st'.nblocks + 1; omega
    · show rest = (progs w).drop ((s.ws w).rets ++ [i]).length
      rw [List.length_append, List.length_singleton, ← List.tail_drop, ← hd]; rfl
    · show ((s.ws w).rets ++ [i]).length ≤ _
      rw [List.length_append, List.length_singleton]; omega
    · intro k op hk hop
      simp only [List.length_append, List.length_singleton] at hk
      by_cases hk' : k < (s.ws w).rets.length
      · obtain ⟨r', hr1, hr2⟩ := hw.ret k op hk' hop
        exact ⟨r', by simpa [List.getElem?_append_left hk'] using hr1, hr2.mono hext⟩
      · have hke : k = (s.ws w).rets.length := by omega
        subst hke
        cases hn.symm.trans hop
        exact ⟨i, by simp, hret⟩
    · simp [BookAt, hpc]
  | writePtr w hlock hpc =>
    have hw := h.winv w
    have hlk : (s.ws w).grants.length ≤ (s.ws w).st.nblocks := by
      simpa [BookAt, hpc] using hw.book
    have hnb := hw.nb_le
    refine h.upd hB h1 ⟨inv_congr_supx hB hw.nb_le hw.linv, ?_, ?_, hw.ops_eq, hw.len, hw.ret, ?_⟩
      (List.prefix_refl _) (fun _ h => .inl h) (fun _ h => h) (h.i3.synced_sub w)
    · show _ ≤ ((s.ws w).grants ++ [(s.ws w).r1]).length; simp; omega
    · show ((s.ws w).grants ++ [(s.ws w).r1]).length ≤ _; simp; omega
    · show (s.ws w).st.nblocks < ((s.ws w).grants ++ [(s.ws w).r1]).length; simp; omega
  | syncData w idx v hpc hmem =>
    have hw := h.winv w
    refine h.upd hB h1 ⟨hw.linv, hw.nb_le, hw.gl_le, hw.ops_eq, hw.len, hw.ret, ?_⟩
      (List.prefix_refl _) (fun e he => ?_) (fun _ h => List.mem_cons_of_mem _ h) (fun e he => ?_)
    · simpa [BookAt, hpc] using hw.book
    · rcases List.mem_cons.mp he with rfl | he
      · exact .inr hmem
      · exact .inl he
    · rcases List.mem_cons.mp he with rfl | he
      · exact List.mem_cons_self
      · exact List.mem_cons_of_mem _ (h.i3.synced_sub w e he)
  | acquireSync w hlock hpc hops | syncStart w hpc hops => exact h.ctl hB h1 hops
  | acquireBlk w hlock hpc hops hnr => exact h.ctl hB h1 (not_ready hops hnr)
  | read1 w hlock hpc | read2 w hlock hpc =>
    exact h.ctl hB h1 (by simpa [BookAt, hpc] using (h.winv w).book)
  | releaseBlk w hlock hpc => exact h.ctl hB h1 trivial
  | releaseSync | syncRevWrite => exact h.shared h1
  | syncRevRead w ns v hpc => exact h
  | syncDone w hpc hlock hall =>
    exact h.ctl hB h1 ⟨by simpa [BookAt, hpc] using (h.winv w).book, hall⟩

theorem inv_step {B : Nat} {progs : Nat → List (Ns × Option Val)} {s : PState} {l : PLbl}
    {s' : PState} (hB : 0 < B) (h : Inv B progs s) (hs : pstep s l = some s') : Inv B progs s' :=
  (step_of_pstep hs).inv hB h

end Sk.Par
