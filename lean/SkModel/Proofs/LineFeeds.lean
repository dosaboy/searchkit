/-
  SkModel.Proofs.LineFeeds — where the line feeds of a file are.

  `rfindLF` / `findLF` (the seeker's search inside one chunk) find the last / first line feed of
  a range; `Spec.lastLFBefore` / `Spec.firstLFFrom` are the same searches over everything before
  / after an offset; `Spec.lineStart` is the greatest line boundary at or before an offset and
  `Spec.lineEnd` the first line feed (or the end of the file) from it on.
-/
import SkModel.Spec.Lines

namespace Sk

theorem rfindLF_succ (F : FileV) (a k : Nat) :
    rfindLF F a (k + 1) =
      if a + k < F.len && F.isLF (a + k) then some (a + k) else rfindLF F a k := rfl

theorem findLF_succ (F : FileV) (a k : Nat) :
    findLF F a (k + 1) = if a < F.len && F.isLF a then some a else findLF F (a + 1) k := rfl

theorem rfindLF_spec (F : FileV) (a k : Nat) :
    match rfindLF F a k with
    | some i => a ≤ i ∧ i < a + k ∧ i < F.len ∧ F.isLF i = true ∧
        ∀ j, i < j → j < a + k → ¬(j < F.len ∧ F.isLF j = true)
    | none => ∀ j, a ≤ j → j < a + k → ¬(j < F.len ∧ F.isLF j = true) := by
  induction k with
  | zero => intro j h1 h2; omega
  | succ k ih =>
    rw [rfindLF_succ]
    by_cases hc : (a + k < F.len && F.isLF (a + k)) = true
    · rw [if_pos hc]
      rw [Bool.and_eq_true, decide_eq_true_eq] at hc
      exact ⟨by omega, by omega, hc.1, hc.2, fun j h1 h2 => by omega⟩
    · rw [if_neg hc]
      rw [Bool.and_eq_true, decide_eq_true_eq] at hc
      cases h : rfindLF F a k with
      | some i =>
        rw [h] at ih
        obtain ⟨h1, h2, h3, h4, h5⟩ := ih
        exact ⟨h1, by omega, h3, h4, fun j hj1 hj2 =>
          if hjk : j = a + k then hjk ▸ hc else h5 j hj1 (by omega)⟩
      | none =>
        rw [h] at ih
        exact fun j h1 h2 => if hjk : j = a + k then hjk ▸ hc else ih j h1 (by omega)

theorem rfindLF_some {F : FileV} {a k i : Nat} (h : rfindLF F a k = some i) :
    a ≤ i ∧ i < a + k ∧ i < F.len ∧ F.isLF i = true ∧
      ∀ j, i < j → j < a + k → ¬(j < F.len ∧ F.isLF j = true) := by
  have := rfindLF_spec F a k
  rw [h] at this
  exact this

theorem rfindLF_none {F : FileV} {a k : Nat} (h : rfindLF F a k = none) :
    ∀ j, a ≤ j → j < a + k → ¬(j < F.len ∧ F.isLF j = true) := by
  have := rfindLF_spec F a k
  rw [h] at this
  exact this

theorem rfindLF_split (F : FileV) (a k₁ k₂ : Nat) :
    rfindLF F a (k₁ + k₂) =
      match rfindLF F (a + k₁) k₂ with
      | some i => some i
      | none => rfindLF F a k₁ := by
  induction k₂ with
  | zero => rfl
  | succ k₂ ih =>
    rw [← Nat.add_assoc, rfindLF_succ, rfindLF_succ, Nat.add_assoc a k₁ k₂]
    split
    · rfl
    · exact ih

theorem findLF_eq_find? (F : FileV) (a k : Nat) :
    findLF F a k = (List.range' a k).find? fun i => i < F.len && F.isLF i := by
  induction k generalizing a with
  | zero => rfl
  | succ k ih =>
    rw [findLF_succ, ih, List.range'_succ, List.find?_cons]
    cases decide (a < F.len) && F.isLF a <;> rfl

theorem findLF_some {F : FileV} {a k i : Nat} (h : findLF F a k = some i) :
    a ≤ i ∧ i < a + k ∧ i < F.len ∧ F.isLF i = true ∧
      ∀ j, a ≤ j → j < i → ¬(j < F.len ∧ F.isLF j = true) := by
  obtain ⟨hp, hm, hb⟩ := List.find?_range'_eq_some.mp (findLF_eq_find? F a k ▸ h)
  rw [List.mem_range'_1] at hm
  rw [Bool.and_eq_true, decide_eq_true_eq] at hp
  exact ⟨hm.1, hm.2, hp.1, hp.2, fun j h1 h2 hj => by simpa [hj] using hb j h1 h2⟩

theorem findLF_none {F : FileV} {a k : Nat} (h : findLF F a k = none) :
    ∀ j, a ≤ j → j < a + k → ¬(j < F.len ∧ F.isLF j = true) := fun j h1 h2 hj => by
  have := List.find?_range'_eq_none.mp (findLF_eq_find? F a k ▸ h) j h1 h2
  simp [hj] at this

theorem findLF_split (F : FileV) (a k₁ k₂ : Nat) :
    findLF F a (k₁ + k₂) =
      match findLF F a k₁ with
      | some i => some i
      | none => findLF F (a + k₁) k₂ := by
  simp only [findLF_eq_find?]
  rw [← List.range'_append_1, List.find?_append]
  cases List.find? _ (List.range' a k₁) <;> rfl

namespace Spec

theorem lastLFBefore_eq (F : FileV) (s : Nat) : lastLFBefore F s = rfindLF F 0 s := by
  induction s with
  | zero => rfl
  | succ s ih =>
    unfold lastLFBefore rfindLF
    rw [ih, Nat.zero_add]

theorem firstLFFrom_eq (F : FileV) (o k : Nat) : firstLFFrom F o k = findLF F o k := by
  induction k generalizing o with
  | zero => rfl
  | succ k ih =>
    unfold firstLFFrom findLF
    rw [ih]

theorem lastLFBefore_some {F : FileV} {s i : Nat} (h : lastLFBefore F s = some i) :
    i < s ∧ i < F.len ∧ F.isLF i = true ∧
      ∀ j, i < j → j < s → ¬(j < F.len ∧ F.isLF j = true) := by
  rw [lastLFBefore_eq] at h
  obtain ⟨_, h2, h3, h4, h5⟩ := rfindLF_some h
  exact ⟨by omega, h3, h4, fun j h1 hj => h5 j h1 (by omega)⟩

theorem lastLFBefore_none {F : FileV} {s : Nat} (h : lastLFBefore F s = none) :
    ∀ j, j < s → ¬(j < F.len ∧ F.isLF j = true) := by
  rw [lastLFBefore_eq] at h
  exact fun j hj => rfindLF_none h j (Nat.zero_le _) (by omega)

theorem firstLFFrom_some {F : FileV} {o k j : Nat} (h : firstLFFrom F o k = some j) :
    o ≤ j ∧ j < o + k ∧ j < F.len ∧ F.isLF j = true ∧
      ∀ j', o ≤ j' → j' < j → ¬(j' < F.len ∧ F.isLF j' = true) :=
  findLF_some (firstLFFrom_eq F o k ▸ h)

theorem firstLFFrom_none {F : FileV} {o k : Nat} (h : firstLFFrom F o k = none) :
    ∀ j, o ≤ j → j < o + k → ¬(j < F.len ∧ F.isLF j = true) :=
  findLF_none (firstLFFrom_eq F o k ▸ h)

/-- `F.len` is a boundary when the file ends in a line feed, although no line starts there.
    `C04.IsStart` (Seek4Lines) is a boundary below `F.len`, which is membership in
    `Spec.lineStarts`; `Sk.IsLineStart` (SeekShape) is this predicate on `Int` offsets. -/
def Boundary (F : FileV) (b : Nat) : Prop := b = 0 ∨ (b - 1 < F.len ∧ F.isLF (b - 1) = true)

theorem lineStart_le (F : FileV) (o : Nat) : lineStart F o ≤ o := by
  unfold lineStart
  cases h : lastLFBefore F o with
  | some i => exact (lastLFBefore_some h).1
  | none => exact Nat.zero_le _

theorem lineStart_props (F : FileV) (o : Nat) :
    Boundary F (lineStart F o) ∧
    ∀ j, lineStart F o ≤ j → j < o → ¬(j < F.len ∧ F.isLF j = true) := by
  unfold lineStart
  cases h : lastLFBefore F o with
  | some i =>
    obtain ⟨_, h2, h3, h4⟩ := lastLFBefore_some h
    exact ⟨Or.inr ⟨h2, h3⟩, fun j hj => h4 j hj⟩
  | none => exact ⟨Or.inl rfl, fun j _ => lastLFBefore_none h j⟩

theorem boundary_le_lineStart (F : FileV) (s o : Nat) (hs : Boundary F s) (h : s ≤ o) :
    s ≤ lineStart F o := by
  rcases hs with hs | hs
  · omega
  · exact Nat.le_of_not_lt fun _ => (lineStart_props F o).2 (s - 1) (by omega) (by omega) hs

theorem lineStart_mono (F : FileV) (a b : Nat) (h : a ≤ b) : lineStart F a ≤ lineStart F b :=
  boundary_le_lineStart F _ b (lineStart_props F a).1 (Nat.le_trans (lineStart_le F a) h)

theorem lineStart_succ (F : FileV) (n : Nat) :
    lineStart F (n + 1) = if n < F.len && F.isLF n then n + 1 else lineStart F n := by
  unfold lineStart
  rw [lastLFBefore]
  by_cases hc : (n < F.len && F.isLF n) = true <;> simp [hc]

theorem le_lineEnd (F : FileV) (o : Nat) (ho : o ≤ F.len) :
    o ≤ lineEnd F o ∧ lineEnd F o ≤ F.len := by
  unfold lineEnd
  cases h : firstLFFrom F o (F.len - o) with
  | some j => have := firstLFFrom_some h; exact ⟨this.1, Nat.le_of_lt this.2.2.1⟩
  | none => exact ⟨ho, Nat.le_refl _⟩

theorem lineEnd_props (F : FileV) (o : Nat) :
    (lineEnd F o < F.len → F.isLF (lineEnd F o) = true) ∧
    ∀ j, o ≤ j → j < lineEnd F o → ¬(j < F.len ∧ F.isLF j = true) := by
  unfold lineEnd
  cases h : firstLFFrom F o (F.len - o) with
  | none =>
    exact ⟨fun h => absurd h (Nat.lt_irrefl _), fun j h1 h2 => firstLFFrom_none h j h1 (by
      simp only [Option.getD_none] at h2; omega)⟩
  | some e =>
    obtain ⟨_, _, _, h4, h5⟩ := firstLFFrom_some h
    exact ⟨fun _ => h4, h5⟩

theorem lineStart_lineEnd (F : FileV) (o : Nat) (ho : o ≤ F.len) :
    lineStart F (lineEnd F o) = lineStart F o := by
  have hle := le_lineEnd F o ho
  refine Nat.le_antisymm ?_ (lineStart_mono F o _ hle.1)
  apply boundary_le_lineStart F _ o (lineStart_props F _).1
  have := lineStart_le F (lineEnd F o)
  rcases (lineStart_props F (lineEnd F o)).1 with h | h
  · omega
  · exact Nat.le_of_not_lt fun _ => (lineEnd_props F o).2 _ (by omega) (by omega) h

end Spec
end Sk
