/-
  SkModel.Proofs.RunnerLemmas — what `execute`, `executeAll`, `runAll` and `runErrors` of
  `SkModel.Runner` compute: `executeAll` returns `outs` iff every job's `execute` returns, with
  `outs` their outputs in order (`executeAll_ok`); a successful `runAll` in closed form.
-/
import SkModel.Runner
import SkModel.Proofs.TaskProj

namespace Sk.Run

theorem execute_stats {j : FileJob} {o : List Res × Stats} (h : execute j = .ok o) :
    o.2.results = o.1.length ∧ o.2.lines = (if j.empty then 0 else j.task.n) := by
  unfold execute at h
  split at h
  next he => cases h; simp [he]
  next he => simpa [he] using (runTask_stats _ _ _ h).symm

theorem executeAll_ok : ∀ {jobs : List FileJob} {outs : List (List Res × Stats)},
    executeAll jobs = .ok outs ↔ jobs.map execute = outs.map .ok
  | [], outs => by cases outs <;> simp [executeAll]
  | j :: js, outs => by
    simp only [executeAll, bind_ok, pure_ok, List.map_cons, executeAll_ok (jobs := js)]
    constructor
    · rintro ⟨r, hr, rs, hrs, rfl⟩
      rw [hr, hrs, List.map_cons]
    · cases outs with
      | nil => simp
      | cons o os =>
        intro h
        rw [List.map_cons, List.cons.injEq] at h
        exact ⟨o, h.1, os, h.2, rfl⟩

theorem executeAll_error : ∀ {jobs : List FileJob} {e : Err}, executeAll jobs = .error e →
    ∃ j ∈ jobs, execute j = .error e
  | [], _, h => by cases h
  | j :: js, e, h => by
    simp only [executeAll, bind_error] at h
    rcases h with hj | ⟨_, _, hjs | ⟨_, _, h⟩⟩
    · exact ⟨j, List.mem_cons_self, hj⟩
    · obtain ⟨j', hm, hj'⟩ := executeAll_error hjs
      exact ⟨j', List.mem_cons_of_mem _ hm, hj'⟩
    · cases h

theorem mem_runErrors {jobs : List FileJob} {e : Err} :
    e ∈ runErrors jobs ↔ ∃ j ∈ jobs, execute j = .error e := by
  simp only [runErrors, List.mem_filterMap]
  refine exists_congr fun j => and_congr_right fun _ => ?_
  cases execute j <;> simp

theorem map_eq_map_imp {α β γ δ} {f : α → γ} {g : β → γ} {f' : α → δ} {g' : β → δ}
    (hfg : ∀ a b, f a = g b → f' a = g' b) :
    ∀ {l₁ : List α} {l₂ : List β}, l₁.map f = l₂.map g → l₁.map f' = l₂.map g'
  | [], [], _ => rfl
  | a :: l₁, b :: l₂, h => by
    simp only [List.map_cons, List.cons.injEq] at h ⊢
    exact ⟨hfg a b h.1, map_eq_map_imp hfg h.2⟩
  | [], _ :: _, h | _ :: _, [], h => by simp at h

theorem runAll_ok {jobs : List FileJob} {paths : List (List Res)} {st : RunStats}
    (h : runAll jobs = .ok (paths, st)) :
    ∃ outs : List (List Res × Stats), jobs.map execute = outs.map .ok ∧ paths = outs.map (·.1) ∧
      st = { searches := (jobs.map (·.nregs)).sum, searchesByJob := jobs.map (·.nregs),
             lines := (outs.map (·.2.lines)).sum, results := (outs.map (·.2.results)).sum,
             jobsCompleted := jobs.length, totalJobs := jobs.length } := by
  -- `run()` counts jobs in three ways (no file, `_run_single`, `_run_mp`); each gives `jobs.length`
  have hn : (if jobs.length = 0 then 0 else if jobs.length = 1 then 1 else jobs.length) = jobs.length := by
    split
    · omega
    · split <;> omega
  simp only [runAll, bind_ok, pure_ok, Prod.mk.injEq, executeAll_ok, hn] at h
  obtain ⟨outs, hex, rfl, rfl⟩ := h
  exact ⟨outs, hex, rfl, rfl⟩

end Sk.Run
