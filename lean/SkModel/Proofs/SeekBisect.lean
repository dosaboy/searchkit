/-
  SkModel.Proofs.SeekBisect — `bisectLoop` (Python's `bisect_left` over byte offsets with
  the `line_info` / `found_any_date` side effects of `__getitem__`) finds the least offset
  whose probe date is `≥ since`, and `lineInfo` is the probe at that offset, provided every
  probe succeeds and the probe dates are non-decreasing (`bisectLoop_spec`).  Whatever the
  probes do, what they guarantee carries over to the outcome (`bisectLoop_post`).
-/
import SkModel.Seeker
import SkModel.Proofs.ExceptLemmas

namespace Sk.C04

theorem bisectLoop_zero (K : SeekK) (F : FileV) (ts : Nat → Option Int) (since : Int)
    (lo hi : Nat) (st : BisSt) : bisectLoop K F ts since 0 lo hi st = .ok (lo, st) := rfl

theorem bisectLoop_post (K : SeekK) (F : FileV) (ts : Nat → Option Int) (since : Int)
    (E : SeekErr → Prop) (P : LLine → Prop)
    (hg : ∀ off, off < F.len → Post E P (getItem K F ts off)) :
    ∀ (fuel lo hi : Nat) (st : BisSt), hi ≤ F.len → (∀ l, st.lineInfo = some l → P l) →
      Post (fun e => E e.1) (fun r => ∀ l, r.2.lineInfo = some l → P l)
        (bisectLoop K F ts since fuel lo hi st)
  | 0, _, _, _, _, hst => hst
  | fuel + 1, lo, hi, st, hhi, hst => by
    rw [bisectLoop]
    refine Post.ite (fun hlt => ?_) fun _ => hst
    dsimp only
    have hp := hg ((lo + hi) / 2) (by omega)
    cases hm : getItem K F ts ((lo + hi) / 2) with
    | error e => exact hp.of_error hm
    | ok l0 =>
      have hst' : ∀ l, (if (l0.date ts).getD 0 ≥ since then some l0 else st.lineInfo) = some l →
          P l := by
        intro l hl
        split at hl
        · cases hl; exact hp.of_ok hm
        · exact hst l hl
      exact Post.ite (fun _ => bisectLoop_post K F ts since E P hg fuel _ _ _ hhi hst')
        fun _ => bisectLoop_post K F ts since E P hg fuel _ _ _ (by omega) hst'

/-- generic `bisect_left` fact, for probes that all succeed with monotone dates -/
theorem bisectLoop_spec (K : SeekK) (F : FileV) (ts : Nat → Option Int) (since : Int)
    (n : Nat) (g : Nat → LLine) (a : Nat → Int)
    (hg : ∀ i, i < n → getItem K F ts i = .ok (g i))
    (ha : ∀ i, i < n → (g i).date ts = some (a i))
    (mono : ∀ i j, i ≤ j → j < n → a i ≤ a j) :
    ∀ (fuel lo hi : Nat) (st : BisSt), hi - lo ≤ fuel → lo ≤ hi → hi ≤ n →
      (∀ i, i < lo → a i < since) → (∀ i, hi ≤ i → i < n → since ≤ a i) →
      (hi < n → st.lineInfo = some (g hi)) → (hi = n → st.lineInfo = none) →
      ∃ r st', bisectLoop K F ts since fuel lo hi st = .ok (r, st') ∧ r ≤ n ∧
        (∀ i, i < r → a i < since) ∧ (∀ i, r ≤ i → i < n → since ≤ a i) ∧
        (r < n → st'.lineInfo = some (g r)) ∧ (r = n → st'.lineInfo = none) := by
  intro fuel
  induction fuel with
  | zero =>
    intro lo hi st hf hle hn hlo hhi hp1 hp2
    obtain rfl : lo = hi := by omega
    exact ⟨lo, st, rfl, hn, hlo, hhi, hp1, hp2⟩
  | succ fuel ih =>
    intro lo hi st hf hle hn hlo hhi hp1 hp2
    rw [bisectLoop]
    by_cases h : lo < hi
    · obtain ⟨m, hm, h1, h2, h3, h4⟩ : ∃ m, (lo + hi) / 2 = m ∧ lo ≤ m ∧ m < hi ∧
          hi - (m + 1) ≤ fuel ∧ m - lo ≤ fuel := ⟨_, rfl, by omega⟩
      have hmn : m < n := Nat.lt_of_lt_of_le h2 hn
      simp only [h, if_true, hm, hg m hmn, ha m hmn, Option.getD_some]
      by_cases hlt : a m < since
      · -- everything up to `m` is too old
        rw [if_pos hlt, if_neg (by omega : ¬ a m ≥ since)]
        refine ih (m + 1) hi _ h3 h2 hn (fun i hi' => ?_) hhi hp1 hp2
        have := mono i m (by omega) hmn
        omega
      · -- `m` and everything after it is new enough, and `m` is the probe remembered
        rw [if_neg hlt, if_pos (by omega : a m ≥ since)]
        refine ih lo m _ h4 h1 (Nat.le_of_lt hmn) hlo (fun i h5 h6 => ?_) (fun _ => rfl)
          (fun h => absurd h (Nat.ne_of_lt hmn))
        have := mono m i h5 h6
        omega
    · rw [if_neg h]
      obtain rfl : lo = hi := by omega
      exact ⟨lo, st, rfl, hn, hlo, hhi, hp1, hp2⟩

/-- the call made by `seekerRun` -/
theorem bisect_run (K : SeekK) (F : FileV) (ts : Nat → Option Int) (since : Int)
    (g : Nat → LLine) (a : Nat → Int)
    (hg : ∀ i, i < F.len → getItem K F ts i = .ok (g i))
    (ha : ∀ i, i < F.len → (g i).date ts = some (a i))
    (mono : ∀ i j, i ≤ j → j < F.len → a i ≤ a j) :
    ∃ r st, bisectLoop K F ts since (F.len + 1) 0 F.len {} = .ok (r, st) ∧ r ≤ F.len ∧
      (∀ i, i < r → a i < since) ∧ (∀ i, r ≤ i → i < F.len → since ≤ a i) ∧
      (r < F.len → st.lineInfo = some (g r)) ∧ (r = F.len → st.lineInfo = none) :=
  bisectLoop_spec K F ts since F.len g a hg ha mono (F.len + 1) 0 F.len {} (by omega)
    (Nat.zero_le _) (Nat.le_refl _) (fun _ h => absurd h (Nat.not_lt_zero _))
    (fun _ h1 h2 => absurd h2 (Nat.not_lt.mpr h1)) (fun h => absurd h (Nat.lt_irrefl _))
    (fun _ => rfl)

end Sk.C04
