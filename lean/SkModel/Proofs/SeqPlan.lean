/-
  SkModel.Proofs.SeqPlan — `seqStep` split into a decision and its execution.

  What `_sequence_search` does on a line is decided by the line and the control part of
  the state (`started`, `cnt`, `sec`) alone; the result list is only ever touched in one
  way: optionally drop the results of the current section, then append one new result.
  Every fact about `seqStep` is a fact about one of the two halves.
-/
import SkModel.Task
import SkModel.Proofs.ExceptLemmas

namespace Sk

/-- the decision taken on one line: nothing, or file the match `m` of sub-definition `sd`
    (role suffix `sfx`) under section id `k`, after dropping the current section's results
    if `drop`, and continue with the given `started`, `cnt`, `sec` -/
inductive SeqPlan
  | idle
  | file (drop : Bool) (sfx : String) (sd : SDef) (m : Match) (k : Nat)
      (started : Bool) (cnt sec : Nat)

def hitOf (o : Option SDef) (i : Nat) : Option (SDef × Match) :=
  o.bind fun d => (d.run i).map fun m => (d, m)

theorem hitOf_eq_some {o : Option SDef} {i : Nat} {d : SDef} {m : Match} :
    hitOf o i = some (d, m) ↔ o = some d ∧ d.run i = some m := by
  simp only [hitOf, Option.bind_eq_some_iff, Option.map_eq_some_iff, Prod.mk.injEq]
  constructor
  · rintro ⟨_, rfl, _, h, rfl, rfl⟩; exact ⟨rfl, h⟩
  · rintro ⟨rfl, h⟩; exact ⟨d, rfl, m, h, rfl, rfl⟩

def seqPlan (s : SeqDef) (i : Nat) (started : Bool) (cnt sec : Nat) : SeqPlan :=
  -- the last four arguments of `.file`: the section id `k` of the new result, then `started`,
  -- `cnt`, `sec` as they are after the line
  match s.start.run i, started with
  | some m, false => .file false "-start" s.start m cnt true (cnt + 1) cnt
  | some m, true =>
    -- with an end defined the open section is discarded, without one it is complete
    if s.end_.isSome then .file true "-start" s.start m cnt true (cnt + 1) cnt
    else .file false "-start" s.start m (cnt + 1) true (cnt + 2) (cnt + 1)
  | none, false => .idle
  | none, true =>
    match hitOf s.end_ i with
    | some (e, m) => .file false "-end" e m sec false (cnt + 1) cnt
    | none =>
      match hitOf s.body i with
      | some (b, m) => .file false "-body" b m sec true cnt sec
      | none => .idle

def DSt.exec (st : DSt) (id : Nat) (s : SeqDef) (ln : Nat) : SeqPlan → Except Err DSt
  | .idle => pure st
  | .file drop sfx sd m k started cnt sec => do
    let r ← mkSeqRes id s sfx sd ln k m
    let kept := if drop then st.seqRes.filter (fun r => r.sec != some (id, st.sec)) else st.seqRes
    pure { st with started := started, cnt := cnt, sec := sec, seqRes := kept ++ [r],
                   everAdded := true }

theorem exec_file_ok {st st' : DSt} {id s ln drop sfx sd m k started cnt sec} :
    st.exec id s ln (.file drop sfx sd m k started cnt sec) = .ok st' ↔
      ∃ r, mkSeqRes id s sfx sd ln k m = .ok r ∧
        st' = { st with
          started := started, cnt := cnt, sec := sec, everAdded := true,
          seqRes := (if drop then st.seqRes.filter (fun r => r.sec != some (id, st.sec))
                     else st.seqRes) ++ [r] } := by
  simp only [DSt.exec, bind_ok, pure_ok, eq_comm (a := st')]

theorem seqStep_eq_exec (id : Nat) (s : SeqDef) (i : Nat) (st : DSt) :
    seqStep id s i st = st.exec id s (i + 1) (seqPlan s i st.started st.cnt st.sec) := by
  obtain ⟨run, started, cnt, sec, res, ever⟩ := st
  unfold seqStep seqPlan hitOf
  rcases s.start.run i with _ | m <;> cases started <;> rcases s.end_ with _ | e
  -- the four goals without a start match come first; with one, both sides are the same text
  · rfl
  · rfl
  · rcases s.body with _ | b
    · rfl
    · dsimp only [Option.bind]; cases b.run i <;> rfl
  · dsimp only [Option.bind]
    rcases e.run i with _ | m
    · rcases s.body with _ | b
      · rfl
      · dsimp only [Option.bind]; cases b.run i <;> rfl
    · rfl
  all_goals rfl

theorem seqPlan_file {s : SeqDef} {i : Nat} {started : Bool} {cnt sec : Nat}
    {drop sfx sd m k started' cnt' sec'}
    (h : seqPlan s i started cnt sec = .file drop sfx sd m k started' cnt' sec') :
    sd.run i = some m ∧ (sd = s.start ∨ s.body = some sd ∨ s.end_ = some sd) ∧
      (drop = true → started = true) := by
  unfold seqPlan at h
  split at h
  · cases h; exact ⟨‹_›, Or.inl rfl, nofun⟩
  · split at h <;> cases h <;> exact ⟨‹_›, Or.inl rfl, fun _ => rfl⟩
  · cases h
  · split at h
    · cases h
      obtain ⟨he, hm⟩ := hitOf_eq_some.mp ‹_›
      exact ⟨hm, Or.inr (Or.inr he), fun _ => rfl⟩
    · split at h <;> cases h
      obtain ⟨hb, hm⟩ := hitOf_eq_some.mp ‹_›
      exact ⟨hm, Or.inr (Or.inl hb), fun _ => rfl⟩

end Sk
