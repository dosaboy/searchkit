/-
  SkModel.Proofs.SimpleCore — C01 for one single-line definition run alone: a runnable
  definition emits exactly the specification's entry for each line it is run on.
-/
import SkModel.Proofs.DefStep

namespace Sk

theorem findSome_eq_firstMatch (pats : List (Nat → Option Match)) (i : Nat) :
    pats.findSome? (fun p => p i) = (pats.filterMap (fun p => p i)).head? := by
  rw [List.head?_filterMap]

theorem run_eq_spec (sd : SDef) (i : Nat) :
    sd.run i = if Spec.hintOk sd i then Spec.firstMatch sd i else none := by
  unfold SDef.run Spec.hintOk Spec.firstMatch
  cases sd.hint <;> simp only [findSome_eq_firstMatch, if_true]

/-- the entry of `Spec.simple` for line `i` (`spec_simple_eq`): 1-based line number and values -/
def specLine (sd : SDef) (i : Nat) : Option (Nat × List (Option Val)) :=
  (sd.run i).map fun m => (i + 1, Spec.values sd m)

theorem spec_simple_eq (sd : SDef) (n : Nat) :
    Spec.simple sd n = (List.range n).filterMap (specLine sd) := by
  unfold Spec.simple specLine
  congr 1
  funext i
  rw [run_eq_spec]
  split <;> rfl

/-- what a result of a single-line search carries besides line number and values
    (`C01_simple_meta`) -/
def SimpleMeta (sd : SDef) (r : Res) : Prop :=
  r.tag = sd.tag ∧ r.seqId = none ∧ r.sec = none ∧ r.fields = sd.fields

theorem defStep_simple {i d sd st st' o} (hk : d.kind = .simple sd) (hr : st.runnable = true)
    (h : defStep i d st = .ok (st', o)) :
    st' = st ∧ o.map (fun r => (r.ln, r.iter)) = (specLine sd i).toList ∧ ∀ r ∈ o, SimpleMeta sd r := by
  rw [defStep_runnable hr, defBody_simple hk] at h
  unfold specLine
  split at h
  · rename_i m hm
    simp only [bind_ok, pure_ok, Prod.mk.injEq] at h
    obtain ⟨r, hmk, rfl, rfl⟩ := h
    obtain ⟨_, hv, hmeta⟩ := mkSimpleRes_ok hmk
    exact ⟨rfl, by simp [hm, hv], by simpa [SimpleMeta] using hmeta⟩
  · rename_i hm
    cases h
    exact ⟨rfl, by simp [hm], by simp⟩

theorem soloLoop_simple {d sd} (hk : d.kind = .simple sd) :
    ∀ {is : List Nat} {st stF : DSt} {out : List Res}, st.runnable = true →
      soloLoop d st is = .ok (stF, out) →
      out.map (fun r => (r.ln, r.iter)) = is.filterMap (specLine sd) ∧ ∀ r ∈ out, SimpleMeta sd r
  | [], _, _, _, _, h => by cases h; simp
  | i :: is, st, stF, out, hr, h => by
    obtain ⟨st1, o, os, h1, h2, rfl⟩ := soloLoop_cons_ok.mp h
    obtain ⟨rfl, g1, g2⟩ := defStep_simple hk hr h1
    obtain ⟨k1, k2⟩ := soloLoop_simple hk hr h2
    refine ⟨?_, fun r hr => (List.mem_append.mp hr).elim (g2 r) (k2 r)⟩
    rw [List.map_append, g1, k1, List.filterMap_cons]
    cases specLine sd i <;> rfl

theorem eofDef_simple {n d sd st fin} (hk : d.kind = .simple sd) (h : eofDef n d st = .ok fin) :
    fin = [] := by
  simp only [eofDef, hk, pure_ok] at h
  exact h.symm

end Sk
