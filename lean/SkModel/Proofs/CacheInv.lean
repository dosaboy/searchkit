/-
  The `MPCacheSimple` transition system (`SkModel.Cache`) as a relation `Step`, and what holds
  along its runs: the invariant `Inv` (mutual exclusion, program order, linearizability w.r.t.
  one atomic register per key), two potentials that bound the steps of a process, and the
  simulation `EqvT` that makes retries invisible.
-/
import SkModel.Cache
import SkModel.Proofs.Trans

namespace Sk.Cch

theorem cacheRun_eq_run (s : CacheSt) (ls : List CacheLbl) :
    cacheRun s ls = LTS.run cacheStep s ls := by
  induction ls generalizing s with
  | nil => rfl
  | cons l ls ih => cases h : cacheStep s l <;> simp [cacheRun, LTS.run_cons, h, ih]

@[simp] theorem updP_same (f : Nat → CProc) (p : Nat) (v : CProc) : updP f p v p = v := by
  simp [updP]

theorem updP_other (f : Nat → CProc) {p q : Nat} (v : CProc) (h : q ≠ p) :
    updP f p v q = f q := by
  simp [updP, h]

theorem updP_self (f : Nat → CProc) (p q : Nat) : updP f p (f p) q = f q := by
  unfold updP; split <;> simp [*]

/-- effect of one disk access on (disk, value read so far) -/
def accApply (dg : Disk × Option Val) : CAcc → Disk × Option Val
  | .write k v => ((k, some v) :: dg.1, dg.2)
  | .delete k => ((k, none) :: dg.1, dg.2)
  | .read k => (dg.1, dg.1.value k)

def accFold (dg : Disk × Option Val) (as : List CAcc) : Disk × Option Val :=
  as.foldl accApply dg

@[simp] theorem accFold_nil (dg : Disk × Option Val) : accFold dg [] = dg := rfl

@[simp] theorem accFold_cons (dg : Disk × Option Val) (a : CAcc) (as : List CAcc) :
    accFold dg (a :: as) = accFold (accApply dg a) as := rfl

theorem bulk_fold (items : List (CKey × Val)) (d : Disk) (g : Option Val) :
    accFold (d, g) (items.map fun p => CAcc.write p.1 p.2)
      = (items.foldl (fun acc p => (p.1, some p.2) :: acc) d, g) := by
  induction items generalizing d with
  | nil => rfl
  | cons it items ih => simp [accApply, ih]

theorem specApply_eq (d : Disk) (op : COp) :
    specApply d op = accFold (d, none) op.accesses := by
  cases op with
  | set k v => rfl
  | bulkSet items => simp [specApply, COp.accesses, bulk_fold]
  | get k => rfl
  | unset k => rfl

def stAcquire (s : CacheSt) (p : Nat) (op : COp) (rest : List COp) : CacheSt :=
  { s with lock := some p,
           procs := updP s.procs p
             { todo := rest, pending := op.accesses, cur := some op, got := none } }

def stAccess (s : CacheSt) (p : Nat) (a : CAcc) (rest : List CAcc) : CacheSt :=
  { s with disk := (accApply (s.disk, (s.procs p).got) a).1,
           procs := updP s.procs p
             { s.procs p with pending := rest,
                              got := (accApply (s.disk, (s.procs p).got) a).2 } }

def stRelease (s : CacheSt) (p : Nat) (op : COp) : CacheSt :=
  { s with lock := none,
           procs := updP s.procs p { s.procs p with cur := none },
           log := s.log ++ [{ proc := p, op := op, ret := (s.procs p).got }] }

/-- a failed open inside `get`: only the attempt counter moves -/
def stRetry (s : CacheSt) (p : Nat) : CacheSt :=
  { s with procs := updP s.procs p { s.procs p with tries := (s.procs p).tries + 1 } }

inductive Step (s : CacheSt) : CacheLbl → CacheSt → Prop
  | acquire (p op rest) (hl : s.lock = none) (hc : (s.procs p).cur = none)
      (ht : (s.procs p).todo = op :: rest) : Step s (.acquire p) (stAcquire s p op rest)
  | access (p a rest) (hl : s.lock = some p) (hp : (s.procs p).pending = a :: rest) :
      Step s (.access p) (stAccess s p a rest)
  | release (p op) (hl : s.lock = some p) (hp : (s.procs p).pending = [])
      (hc : (s.procs p).cur = some op) : Step s (.release p) (stRelease s p op)
  | retry (p k rest) (hl : s.lock = some p) (hp : (s.procs p).pending = .read k :: rest)
      (ht : (s.procs p).tries < maxOpenRetry) : Step s (.retry p) (stRetry s p)

theorem step_iff {s s' : CacheSt} {l : CacheLbl} : cacheStep s l = some s' ↔ Step s l s' := by
  constructor
  · intro h
    -- every branch of `cacheStep` is `if guard then match … else none`: take the guard, split the
    -- match, and one arm per constructor (three for `access`) is left
    cases l <;> obtain ⟨hg, h⟩ := Option.ite_none_right_eq_some.1 h <;> split at h <;> cases h
    · exact .acquire _ _ _ hg.1 hg.2 ‹_›
    · exact .access _ (.write _ _) _ hg ‹_›
    · exact .access _ (.delete _) _ hg ‹_›
    · exact .access _ (.read _) _ hg ‹_›
    · exact .release _ _ hg.1 hg.2 ‹_›
    · exact .retry _ _ _ hg.1 ‹_› hg.2
  · intro h
    cases h with
    | access p a rest hl hp => cases a <;> simp [cacheStep, hl, hp, stAccess, accApply]
    | _ => simp [cacheStep, stAcquire, stRelease, stRetry, *]

def lblProc : CacheLbl → Nat
  | .acquire p => p
  | .access p => p
  | .release p => p
  | .retry p => p

def isRetry : CacheLbl → Bool
  | .retry _ => true
  | _ => false

theorem Step.others {s s' : CacheSt} {l : CacheLbl} (h : Step s l s') {q : Nat}
    (hq : q ≠ lblProc l) :
    s'.procs q = s.procs q ∧ (s'.lock = some q ↔ s.lock = some q) ∧
      s'.log.filter (·.proc == q) = s.log.filter (·.proc == q) := by
  have hq' : lblProc l ≠ q := Ne.symm hq
  cases h with
  | acquire p op rest hl hc ht =>
    exact ⟨updP_other _ _ hq, by simpa [stAcquire, hl, lblProc] using hq', rfl⟩
  | release p op hl hp hc =>
    exact ⟨updP_other _ _ hq, by simpa [stRelease, hl, lblProc] using hq',
      by simpa [stRelease, List.filter_append, lblProc] using hq'⟩
  | access | retry => exact ⟨updP_other _ _ hq, Iff.rfl, rfl⟩

theorem specReplay_cons (d : Disk) (e : CDone) (es : List CDone) :
    specReplay d (e :: es)
      = if (specApply d e.op).2 = e.ret then specReplay (specApply d e.op).1 es else none := rfl

theorem specReplay_append (d : Disk) (l1 l2 : List CDone) :
    specReplay d (l1 ++ l2) = (specReplay d l1).bind fun d' => specReplay d' l2 := by
  induction l1 generalizing d with
  | nil => rfl
  | cons e es ih =>
    simp only [List.cons_append, specReplay_cons]
    split
    · exact ih _
    · rfl

structure Inv (progs : Nat → List COp) (s : CacheSt) : Prop where
  order : ∀ p, (s.log.filter (·.proc == p)).map (·.op) ++ (s.procs p).cur.toList
            ++ (s.procs p).todo = progs p
  curlock : ∀ p, (s.procs p).cur.isSome ↔ s.lock = some p
  -- the pending accesses, run from the disk as it is, give what the atomic operation gives from `d`
  lin : ∃ d, specReplay [] s.log = some d ∧ (s.lock = none → s.disk = d) ∧
          ∀ p op, s.lock = some p → (s.procs p).cur = some op →
            accFold (s.disk, (s.procs p).got) (s.procs p).pending = specApply d op

theorem inv_init (progs : Nat → List COp) : Inv progs (CacheSt.init progs) where
  order := by intro p; simp [CacheSt.init]
  curlock := by intro p; simp [CacheSt.init]
  lin := ⟨[], rfl, fun _ => rfl, by intro p op h; simp [CacheSt.init] at h⟩

theorem inv_step (progs : Nat → List COp) (s s' : CacheSt) (l : CacheLbl)
    (hi : Inv progs s) (h : Step s l s') : Inv progs s' := by
  obtain ⟨hord, hcl, d, hrep, hdisk, hfold⟩ := hi
  refine ⟨fun q => ?_, fun q => ?_, ?_⟩
  · have := hord q
    rcases Nat.decEq q (lblProc l) with hq | rfl
    · obtain ⟨hp, -, hg⟩ := h.others hq
      rwa [hp, hg]
    · -- `acquire` moves the head of `todo` to `cur`, `release` moves `cur` to the end of the log
      cases h with
      | acquire p op rest hl hc ht =>
        simp [lblProc, hc, ht] at this
        simp [lblProc, stAcquire, this]
      | release p op hl hp hc =>
        simp [lblProc, hc] at this
        simp [lblProc, stRelease, List.filter_append, this]
      | access | retry => simpa only [lblProc, stAccess, stRetry, updP_same] using this
  · have := hcl q
    rcases Nat.decEq q (lblProc l) with hq | rfl
    · obtain ⟨hp, hk, -⟩ := h.others hq
      rwa [hp, hk]
    · cases h with
      | acquire => simp [lblProc, stAcquire]
      | release => simp [lblProc, stRelease]
      | access | retry => simpa only [lblProc, stAccess, stRetry, updP_same] using this
  · cases h with
    | acquire p op rest hl hc ht =>
      refine ⟨d, hrep, (fun h => by cases h), fun q op' hq hcur => ?_⟩
      obtain rfl : p = q := Option.some.inj hq
      simp only [stAcquire, updP_same, Option.some.injEq] at hcur ⊢
      rw [← hcur, hdisk hl, specApply_eq]
    | access p a rest hl hp =>
      refine ⟨d, hrep, (fun h => by cases hl.symm.trans h), fun q op' hq hcur => ?_⟩
      obtain rfl : p = q := Option.some.inj (hl.symm.trans hq)
      simp only [stAccess, updP_same] at hcur ⊢
      have := hfold p op' hl hcur
      rwa [hp, accFold_cons] at this
    | release p op hl hp hc =>
      -- no access is pending: the critical section has taken `d` to `specApply d op`
      have hf := hfold p op hl hc
      rw [hp, accFold_nil] at hf
      refine ⟨s.disk, ?_, fun _ => rfl, fun q op' hq => by cases hq⟩
      simp [stRelease, specReplay_append, hrep, ← hf, specReplay]
    | retry p k rest hl hp ht =>
      refine ⟨d, hrep, (fun h => by cases hl.symm.trans h), fun q op' hq hcur => ?_⟩
      obtain rfl : p = q := Option.some.inj (hl.symm.trans hq)
      simp only [stRetry, updP_same] at hcur ⊢
      exact hfold p op' hl hcur

theorem inv_run (progs : Nat → List COp) (ls : List CacheLbl) (s s' : CacheSt)
    (hi : Inv progs s) (h : cacheRun s ls = some s') : Inv progs s' :=
  LTS.run_inv (step := cacheStep) (fun hi hst => inv_step progs _ _ _ hi (step_iff.1 hst)) hi
    (cacheRun_eq_run _ _ ▸ h)

theorem inv_reach (progs : Nat → List COp) (s : CacheSt)
    (h : ∃ ls, cacheRun (CacheSt.init progs) ls = some s) : Inv progs s := by
  obtain ⟨ls, h⟩ := h
  exact inv_run progs ls _ s (inv_init progs) h

theorem progress (progs : Nat → List COp) (s : CacheSt) (hi : Inv progs s) (p : Nat)
    (h : (s.procs p).todo ≠ [] ∨ (s.procs p).cur.isSome) :
    ∃ l s', cacheStep s l = some s' := by
  cases hl : s.lock with
  | some q =>
    obtain ⟨op, hop⟩ := Option.isSome_iff_exists.1 ((hi.curlock q).2 hl)
    cases hp : (s.procs q).pending with
    | nil => exact ⟨_, _, step_iff.2 (.release q op hl hp hop)⟩
    | cons a rest => exact ⟨_, _, step_iff.2 (.access q a rest hl hp)⟩
  | none =>
    have hc : (s.procs p).cur = none := by simpa [hl] using hi.curlock p
    cases ht : (s.procs p).todo with
    | nil => simp [ht, hc] at h
    | cons op rest => exact ⟨_, _, step_iff.2 (.acquire p op rest hl hc ht)⟩

/-- number of transitions an operation list needs when no open fails: acquire, accesses,
    release -/
def cost : List COp → Nat
  | [] => 0
  | op :: ops => (op.accesses.length + 2) + cost ops

def mu (s : CacheSt) (p : Nat) : Nat :=
  cost (s.procs p).todo + (s.procs p).pending.length + (s.procs p).cur.elim 0 fun _ => 1

theorem mu_step {s s' : CacheSt} {l : CacheLbl} (h : Step s l s') (p : Nat) :
    (if lblProc l == p && !isRetry l then 1 else 0) + mu s' p ≤ mu s p := by
  rcases Nat.decEq p (lblProc l) with hp | rfl
  · simp [mu, (h.others hp).1, Ne.symm hp]
  · cases h <;>
      simp [mu, lblProc, isRetry, stAcquire, stAccess, stRelease, stRetry, cost, *] <;> omega

def accCost : CAcc → Nat
  | .read _ => maxOpenRetry + 1
  | _ => 1

def pendCost : List CAcc → Nat
  | [] => 0
  | a :: as => accCost a + pendCost as

/-- transitions an operation list needs at most: acquire, accesses (a read: up to
    `maxOpenRetry` retries and the read itself), release -/
def costR : List COp → Nat
  | [] => 0
  | op :: ops => (pendCost op.accesses + 2) + costR ops

/-- what is left of the current critical section, given the failed attempts so far -/
def pendMu (tries : Nat) : List CAcc → Nat
  | [] => 0
  | .read _ :: as => (maxOpenRetry - tries) + 1 + pendCost as
  | a :: as => accCost a + pendCost as

theorem pendMu_le (t : Nat) (as : List CAcc) : pendMu t as ≤ pendCost as := by
  cases as with
  | nil => simp [pendMu, pendCost]
  | cons a as => cases a <;> simp [pendMu, pendCost, accCost] <;> omega

theorem pendMu_cons (t : Nat) (a : CAcc) (as : List CAcc) :
    1 + pendCost as ≤ pendMu t (a :: as) := by
  cases a <;> simp [pendMu, accCost] <;> omega

def muR (s : CacheSt) (p : Nat) : Nat :=
  costR (s.procs p).todo + pendMu (s.procs p).tries (s.procs p).pending
    + (s.procs p).cur.elim 0 fun _ => 1

theorem muR_step {s s' : CacheSt} {l : CacheLbl} (h : Step s l s') (p : Nat) :
    (if lblProc l == p then 1 else 0) + muR s' p ≤ muR s p := by
  rcases Nat.decEq p (lblProc l) with hp | rfl
  · simp [muR, (h.others hp).1, Ne.symm hp]
  · rw [beq_self_eq_true, if_pos rfl]
    cases h with
    | acquire q op rest hl hc ht =>
      have := pendMu_le 0 op.accesses
      simp only [lblProc, muR, stAcquire, updP_same, hc, ht, costR, Option.elim]
      omega
    | access q a rest hl hq =>
      have h1 := pendMu_cons (s.procs q).tries a rest
      have h2 := pendMu_le (s.procs q).tries rest
      simp only [lblProc, muR, stAccess, updP_same, hq]
      omega
    | release q op hl hq hc =>
      simp only [lblProc, muR, stRelease, updP_same, hq, hc, pendMu, Option.elim]
      omega
    | retry q k rest hl hq ht =>
      simp only [lblProc, muR, stRetry, updP_same, hq, pendMu]
      omega

/-- same state except for the attempt counters: a retry stays in the class, so the retries of
    a run can be left out -/
structure EqvT (s t : CacheSt) : Prop where
  disk : s.disk = t.disk
  lock : s.lock = t.lock
  log : s.log = t.log
  todo : ∀ p, (s.procs p).todo = (t.procs p).todo
  pending : ∀ p, (s.procs p).pending = (t.procs p).pending
  cur : ∀ p, (s.procs p).cur = (t.procs p).cur
  got : ∀ p, (s.procs p).got = (t.procs p).got

theorem EqvT.refl (s : CacheSt) : EqvT s s :=
  ⟨rfl, rfl, rfl, fun _ => rfl, fun _ => rfl, fun _ => rfl, fun _ => rfl⟩

theorem EqvT.upd {s t s' t' : CacheSt} (he : EqvT s t) (p : Nat) {v w : CProc}
    (hs : ∀ q, s'.procs q = updP s.procs p v q) (ht : ∀ q, t'.procs q = updP t.procs p w q)
    (hd : s'.disk = t'.disk) (hk : s'.lock = t'.lock) (hg : s'.log = t'.log)
    (htodo : v.todo = w.todo) (hpend : v.pending = w.pending) (hcur : v.cur = w.cur)
    (hgot : v.got = w.got) : EqvT s' t' := by
  have key {α : Type} (F : CProc → α) (hvw : F v = F w)
      (h : ∀ q, F (s.procs q) = F (t.procs q)) (q : Nat) : F (s'.procs q) = F (t'.procs q) := by
    rw [hs, ht]; unfold updP; split
    · exact hvw
    · exact h q
  exact ⟨hd, hk, hg, key _ htodo he.todo, key _ hpend he.pending, key _ hcur he.cur,
    key _ hgot he.got⟩

theorem eqvT_step {s s' t : CacheSt} {l : CacheLbl} (he : EqvT s t)
    (h : cacheStep s l = some s') :
    if (match l with | .retry _ => false | _ => true) then
      ∃ t', cacheStep t l = some t' ∧ EqvT s' t' else EqvT s' t := by
  cases step_iff.1 h with
  | acquire p op rest hl hc ht =>
    exact ⟨_, step_iff.2 (.acquire p op rest (he.lock ▸ hl) (he.cur p ▸ hc) (he.todo p ▸ ht)),
      he.upd p (fun _ => rfl) (fun _ => rfl) he.disk rfl he.log rfl rfl rfl rfl⟩
  | access p a rest hl hp =>
    refine ⟨_, step_iff.2 (.access p a rest (he.lock ▸ hl) (he.pending p ▸ hp)),
      he.upd p (fun _ => rfl) (fun _ => rfl) ?_ he.lock he.log (he.todo p) rfl (he.cur p) ?_⟩ <;>
      simp [stAccess, he.disk, he.got p]
  | release p op hl hp hc =>
    refine ⟨_, step_iff.2 (.release p op (he.lock ▸ hl) (he.pending p ▸ hp) (he.cur p ▸ hc)),
      he.upd p (fun _ => rfl) (fun _ => rfl) he.disk rfl ?_ (he.todo p) (he.pending p) rfl
        (he.got p)⟩
    simp [stRelease, he.log, he.got p]
  | retry p k rest hl hp ht =>
    exact he.upd p (fun _ => rfl) (fun q => (updP_self _ p q).symm) he.disk he.lock he.log
      (he.todo p) (he.pending p) (he.cur p) (he.got p)

end Sk.Cch
