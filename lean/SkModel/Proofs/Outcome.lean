/-
  SkModel.Proofs.Outcome — which exceptions can leave `runTask`, and when.

  The only `raise` sites of the task model are
    * `lineStep`: a line that does not decode raises `.unicodeDecode` before any search
      sees it;
    * `savePart`: a captured group that has no field name raises `.fileSearch`
      (a *configuration* error: `field_info` shorter than the pattern's groups, or given for
      a pattern without groups).
  Under the well-formedness condition below (a condition on the configuration and on the
  regex behaviour, not on the content) the second site is unreachable, so the outcome of
  a run is a function of the decode oracle alone.
-/
-- TaskProj and not just DefStep: both modules use `fun_induction` on `defsStep` and `eofAll`,
-- and the auxiliary lemmas Lean generates for it clash when two unrelated modules each made them
import SkModel.Proofs.TaskProj

namespace Sk

/-- every match this definition can produce fits its field list -/
def SDef.WF (d : SDef) : Prop :=
  d.store = false ∨ d.fields = none ∨
  ∃ fs, d.fields = some fs ∧
    ∀ m, ((∃ i, d.run i = some m) ∨ d.emptyRes = some m) →
      m.groups ≠ [] ∧ m.groups.length ≤ fs.length

def Def.WF (d : Def) : Prop :=
  match d.kind with
  | .simple sd => sd.WF
  | .seq s => s.start.WF ∧ (∀ b, s.body = some b → b.WF) ∧ (∀ e, s.end_ = some e → e.WF)

theorem savePart_isOk {fields : Option (List String)} {idx : Nat} (v : Option Val)
    (h : ∀ fs, fields = some fs → idx ≠ 0 ∧ idx - 1 < fs.length) : IsOk (savePart fields idx v) := by
  unfold savePart
  split
  · rename_i fs
    obtain ⟨h0, hlt⟩ := h fs rfl
    rw [if_neg h0, List.getElem?_eq_getElem hlt]
    exact ⟨_, rfl⟩
  · exact ⟨_, rfl⟩

theorem savePartsFrom_isOk {fields : Option (List String)} : ∀ (k : Nat) (vs : List (Option Val)),
    (∀ fs, fields = some fs → k ≠ 0 ∧ k + vs.length ≤ fs.length + 1) →
    IsOk (savePartsFrom fields k vs)
  | _, [], _ => ⟨_, rfl⟩
  | k, v :: vs, h => by
    simp only [List.length_cons] at h
    refine isOk_bind (savePart_isOk v fun fs hfs => ?_) fun _ =>
      isOk_bind (savePartsFrom_isOk (k + 1) vs fun fs hfs => ?_) fun _ => isOk_pure _
    all_goals have := h fs hfs; omega

/-- `store_result` never raises for a match a well-formed definition can produce -/
theorem mkParts_ok {d : SDef} {m : Match} (hwf : d.WF)
    (hm : (∃ i, d.run i = some m) ∨ d.emptyRes = some m) : ∃ ps, mkParts d m = .ok ps := by
  unfold mkParts
  split
  · exact ⟨_, rfl⟩
  · rename_i hs
    rcases hwf with hs' | hn | ⟨fs, hfs, hall⟩
    · rw [hs'] at hs; exact absurd rfl hs
    · rw [hn]
      split
      · exact isOk_bind (savePart_isOk _ nofun) fun _ => isOk_pure _
      · exact savePartsFrom_isOk _ _ nofun
    · obtain ⟨hne, hlen⟩ := hall m hm
      rw [if_neg (by simpa using hne), hfs]
      exact savePartsFrom_isOk 1 m.groups fun fs' h => by cases h; omega

theorem mkSeqRes_isOk {id s sfx sd ln sec m} (hwf : SDef.WF sd)
    (hm : (∃ i, sd.run i = some m) ∨ sd.emptyRes = some m) :
    IsOk (mkSeqRes id s sfx sd ln sec m) :=
  isOk_bind (mkParts_ok hwf hm) fun _ => isOk_pure _

theorem mkSimpleRes_isOk {id sd ln m} (hwf : SDef.WF sd)
    (hm : (∃ i, sd.run i = some m) ∨ sd.emptyRes = some m) : IsOk (mkSimpleRes id sd ln m) :=
  isOk_bind (mkParts_ok hwf hm) fun _ => isOk_pure _

theorem Def.WF_simple {d : Def} {sd} (h : d.WF) (hk : d.kind = .simple sd) : sd.WF := by
  unfold Def.WF at h; rw [hk] at h; exact h

theorem Def.WF_seq {d : Def} {s} (h : d.WF) (hk : d.kind = .seq s) :
    s.start.WF ∧ (∀ b, s.body = some b → b.WF) ∧ (∀ e, s.end_ = some e → e.WF) := by
  unfold Def.WF at h; rw [hk] at h; exact h

theorem seqStep_isOk {id s i st} (hwf : s.start.WF ∧ (∀ b, s.body = some b → b.WF) ∧
    (∀ e, s.end_ = some e → e.WF)) : IsOk (seqStep id s i st) := by
  rw [seqStep_eq_exec]
  cases hp : seqPlan s i st.started st.cnt st.sec with
  | idle => exact isOk_pure _
  | file drop sfx sd m =>
    obtain ⟨hm, hrole, _⟩ := seqPlan_file hp
    have hsd : sd.WF := by
      rcases hrole with rfl | h | h
      · exact hwf.1
      · exact hwf.2.1 sd h
      · exact hwf.2.2 sd h
    exact isOk_bind (mkSeqRes_isOk hsd (Or.inl ⟨i, hm⟩)) fun _ => isOk_pure _

theorem defBody_isOk {i d st} (hwf : Def.WF d) : IsOk (defBody i d st) := by
  cases hk : d.kind with
  | simple sd =>
    rw [defBody_simple hk]
    split
    · rename_i m hm
      exact isOk_bind (mkSimpleRes_isOk (Def.WF_simple hwf hk) (Or.inl ⟨i, hm⟩)) fun _ =>
        isOk_pure _
    · exact isOk_pure _
  | seq s =>
    rw [defBody_seq hk]
    exact isOk_bind (seqStep_isOk (Def.WF_seq hwf hk)) fun _ => isOk_pure _

/-- a well-formed definition never raises on a line, whatever its state -/
theorem defStep_ok (i : Nat) (d : Def) (st : DSt) (hwf : d.WF) :
    ∃ r, defStep i d st = .ok r := by
  rw [defStep_eq]
  split
  · exact isOk_pure _
  · exact defBody_isOk hwf

theorem defsStep_isOk (i : Nat) (defs : List Def) (sts : List DSt) (h : ∀ d ∈ defs, Def.WF d) :
    IsOk (defsStep i defs sts) := by
  fun_induction defsStep i defs sts with
  | case1 d ds st sts ih =>
    exact isOk_bind (defStep_ok i d st (h d (by simp))) fun _ =>
      isOk_bind (ih fun x hx => h x (by simp [hx])) fun _ => isOk_pure _
  | case2 => exact isOk_pure _

/-- with well-formed definitions, one line fails iff it does not decode, and then with
    UnicodeDecodeError -/
theorem lineStep_outcome (dec : Nat → Bool) (defs : List Def) (ls : LSt) (i : Nat)
    (hwf : ∀ d ∈ defs, d.WF) :
    (dec i = true → ∃ ls', lineStep dec defs ls i = .ok ls') ∧
    (dec i = false → lineStep dec defs ls i = .error .unicodeDecode) := by
  unfold lineStep
  refine ⟨fun hd => ?_, fun hd => by rw [hd]; rfl⟩
  rw [hd]
  exact isOk_bind (defsStep_isOk i defs ls.sts hwf) fun _ => isOk_pure _

namespace Out

theorem lineStep_error_iff {dec defs ls i} (hwf : ∀ d ∈ defs, Def.WF d) :
    (∃ e, lineStep dec defs ls i = .error e) ↔ dec i = false := by
  obtain ⟨h1, h2⟩ := lineStep_outcome dec defs ls i hwf
  refine ⟨fun ⟨e, he⟩ => ?_, fun hd => ⟨_, h2 hd⟩⟩
  cases hd : dec i with
  | false => rfl
  | true =>
    obtain ⟨a, ha⟩ := h1 hd
    rw [ha] at he; cases he

end Out

/-- with well-formed definitions, the loop over an arbitrary list of lines fails iff some line
    of the list does not decode, and then with UnicodeDecodeError -/
theorem linesLoop_outcome (dec : Nat → Bool) (defs : List Def) (ls : LSt) (is : List Nat)
    (hwf : ∀ d ∈ defs, d.WF) :
    ((∀ i ∈ is, dec i = true) → ∃ ls', linesLoop dec defs ls is = .ok ls') ∧
    ((∃ i ∈ is, dec i = false) → linesLoop dec defs ls is = .error .unicodeDecode) := by
  induction is generalizing ls with
  | nil => exact ⟨fun _ => ⟨ls, rfl⟩, fun ⟨_, hi, _⟩ => nomatch hi⟩
  | cons i is ih =>
    obtain ⟨h1, h2⟩ := lineStep_outcome dec defs ls i hwf
    simp only [linesLoop]
    cases hd : dec i with
    | false => exact ⟨fun h => by simp [h i] at hd, fun _ => error_bind (h2 hd) _⟩
    | true =>
      obtain ⟨ls', hl⟩ := h1 hd
      rw [ok_bind hl]
      refine ⟨fun h => (ih ls').1 fun j hj => h j (by simp [hj]), fun ⟨j, hj, hjd⟩ => (ih ls').2 ?_⟩
      rcases List.mem_cons.mp hj with rfl | hj
      · rw [hd] at hjd; cases hjd
      · exact ⟨j, hj, hjd⟩

theorem eofDef_isOk {n d st} (hwf : Def.WF d) : IsOk (eofDef n d st) := by
  unfold eofDef
  cases hk : d.kind with
  | simple sd => exact isOk_pure _
  | seq s =>
    dsimp only
    split
    · cases hE : s.end_ with
      | none => exact isOk_pure _
      | some e =>
        dsimp only
        cases hem : e.emptyRes with
        | none => exact isOk_pure _
        | some m =>
          exact isOk_bind (mkSeqRes_isOk ((Def.WF_seq hwf hk).2.2 e hE) (Or.inr hem)) fun _ =>
            isOk_pure _
    · exact isOk_pure _

theorem eofAll_isOk (n : Nat) (defs : List Def) (sts : List DSt) (h : ∀ d ∈ defs, Def.WF d) :
    IsOk (eofAll n defs sts) := by
  fun_induction eofAll n defs sts with
  | case1 d ds st sts ih =>
    exact isOk_bind (eofDef_isOk (h d (by simp))) fun _ =>
      isOk_bind (ih fun x hx => h x (by simp [hx])) fun _ => isOk_pure _
  | case2 => exact isOk_pure _

end Sk
