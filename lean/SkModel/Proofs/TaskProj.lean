/-
  SkModel.Proofs.TaskProj — the projection theorem: what `runTask` reports for a definition
  is what that definition produces when run alone (`soloLoop` + `eofDef`), whatever else is
  registered.
-/
import SkModel.Proofs.DefStep

namespace Sk

/-- lookup by id in the parallel lists of definitions and states that `defsStep` walks -/
def stOf (id : Nat) : List Def → List DSt → Option (Def × DSt)
  | d :: ds, st :: sts => if d.id = id then some (d, st) else stOf id ds sts
  | _, _ => none

def AllInv : List Def → List DSt → Prop
  | d :: ds, st :: sts => DInv d.id st ∧ AllInv ds sts
  | _, _ => True

theorem defsStep_allInv {i defs sts sts' outs ord}
    (h : defsStep i defs sts = .ok (sts', outs, ord)) (ha : AllInv defs sts) : AllInv defs sts' := by
  fun_induction defsStep i defs sts generalizing sts' outs ord with
  | case1 d ds s ss ih =>
    simp only [bind_ok, pure_ok, Prod.mk.injEq] at h
    obtain ⟨⟨s', o⟩, h1, ⟨ss', os, od⟩, h2, rfl, _⟩ := h
    exact ⟨(defStep_keeps h1).2.1 ha.1, ih h2 ha.2⟩
  | case2 defs => cases h; cases defs <;> trivial

theorem filter_src_none {id k : Nat} {o : List Res} (h : ∀ r ∈ o, r.src = k) (hk : k ≠ id) :
    o.filter (fun r => r.src == id) = [] :=
  List.filter_eq_nil_iff.mpr fun r hr => by simp [h r hr, hk]

theorem filter_src_all {id : Nat} {o : List Res} (h : ∀ r ∈ o, r.src = id) :
    o.filter (fun r => r.src == id) = o :=
  List.filter_eq_self.mpr fun r hr => by simp [h r hr]

theorem defsStep_other {i id defs sts sts' outs ord} (hne : ∀ x ∈ defs, x.id ≠ id)
    (h : defsStep i defs sts = .ok (sts', outs, ord)) :
    outs.filter (fun r => r.src == id) = [] ∧ ord.filter (fun k => k == id) = [] := by
  fun_induction defsStep i defs sts generalizing sts' outs ord with
  | case1 d ds s ss ih =>
    simp only [bind_ok, pure_ok, Prod.mk.injEq] at h
    obtain ⟨⟨s', o⟩, h1, ⟨ss', os, od⟩, h2, rfl, rfl, rfl⟩ := h
    have hd : d.id ≠ id := hne d (by simp)
    obtain ⟨ih1, ih2⟩ := ih (fun x hx => hne x (by simp [hx])) h2
    rw [List.filter_append, List.filter_append, ih1, ih2, filter_src_none (defStep_keeps h1).2.2 hd]
    exact ⟨rfl, by split <;> simp [hd]⟩
  | case2 => cases h; exact ⟨rfl, rfl⟩

theorem defsStep_proj {i id : Nat} {d : Def} {defs sts sts' outs ord st}
    (hp : defs.Pairwise (fun a b => a.id ≠ b.id))
    (h : defsStep i defs sts = .ok (sts', outs, ord)) (hs : stOf id defs sts = some (d, st)) :
    ∃ st' o, defStep i d st = .ok (st', o) ∧ stOf id defs sts' = some (d, st') ∧
      outs.filter (fun r => r.src == id) = o ∧
      ord.filter (fun k => k == id) = (if st'.everAdded && !st.everAdded then [id] else []) := by
  fun_induction stOf id defs sts generalizing sts' outs ord with
  | case3 => cases hs
  | case1 d' ds s ss he =>
    simp only [defsStep, bind_ok, pure_ok, Prod.mk.injEq] at h
    obtain ⟨⟨s', o⟩, h1, ⟨ss', os, od⟩, h2, rfl, rfl, rfl⟩ := h
    cases hs
    obtain ⟨ho1, ho2⟩ :=
      defsStep_other (fun x hx => he ▸ Ne.symm ((List.pairwise_cons.mp hp).1 x hx)) h2
    refine ⟨s', o, h1, by simp [stOf, he], ?_, ?_⟩
    · rw [List.filter_append, ho1, filter_src_all (he ▸ (defStep_keeps h1).2.2), List.append_nil]
    · rw [List.filter_append, ho2]
      split <;> simp [he]
  | case2 d' ds s ss he ih =>
    simp only [defsStep, bind_ok, pure_ok, Prod.mk.injEq] at h
    obtain ⟨⟨s', o⟩, h1, ⟨ss', os, od⟩, h2, rfl, rfl, rfl⟩ := h
    obtain ⟨st', o', g1, g2, g3, g4⟩ := ih (List.pairwise_cons.mp hp).2 h2 hs
    refine ⟨st', o', g1, by simp [stOf, he, g2], ?_, ?_⟩
    · rw [List.filter_append, g3, filter_src_none (defStep_keeps h1).2.2 he]; rfl
    · rw [List.filter_append, g4]
      split <;> simp [he]

theorem lineStep_ok {dec defs ls i ls'} (h : lineStep dec defs ls i = .ok ls') :
    ∃ sts' outs ord, defsStep i defs ls.sts = .ok (sts', outs, ord) ∧
      ls' = { sts := sts', simple := ls.simple ++ outs, order := ls.order ++ ord } := by
  unfold lineStep at h
  split at h
  · cases h
  · simp only [bind_ok, pure_ok] at h
    obtain ⟨⟨sts', outs, ord⟩, hds, rfl⟩ := h
    exact ⟨sts', outs, ord, hds, rfl⟩

theorem linesLoop_allInv {dec defs} : ∀ {is : List Nat} {ls ls' : LSt},
    linesLoop dec defs ls is = .ok ls' → AllInv defs ls.sts → AllInv defs ls'.sts
  | [], _, _, h, ha => by cases h; exact ha
  | _ :: _, _, _, h, ha => by
    simp only [linesLoop, bind_ok] at h
    obtain ⟨_, hl, hrest⟩ := h
    obtain ⟨_, _, _, hds, rfl⟩ := lineStep_ok hl
    exact linesLoop_allInv hrest (defsStep_allInv hds ha)

/-- `linesLoop` seen from the one definition `d`: `st` and `out` are the state and the simple
    results of `d` run alone on the lines so far; `order` holds `d.id` iff `d` has filed a sequence
    result -/
structure ProjInv (d : Def) (defs : List Def) (ls : LSt) (st : DSt) (out : List Res) : Prop where
  state : stOf d.id defs ls.sts = some (d, st)
  simple : ls.simple.filter (fun r => r.src == d.id) = out
  order : ls.order.filter (fun k => k == d.id) = if st.everAdded then [d.id] else []

theorem lineStep_proj {dec : Nat → Bool} {d : Def} {defs ls ls' st out i}
    (hp : defs.Pairwise (fun a b => a.id ≠ b.id))
    (hI : ProjInv d defs ls st out) (h : lineStep dec defs ls i = .ok ls') :
    ∃ st' o, defStep i d st = .ok (st', o) ∧ ProjInv d defs ls' st' (out ++ o) := by
  obtain ⟨sts', outs, ord, hds, rfl⟩ := lineStep_ok h
  obtain ⟨st', o, g1, g2, g3, g4⟩ := defsStep_proj hp hds hI.state
  refine ⟨st', o, g1, g2, by rw [List.filter_append, hI.simple, g3], ?_⟩
  rw [List.filter_append, hI.order, g4]
  cases h1 : st.everAdded with
  | false => cases st'.everAdded <;> rfl
  | true => rw [(defStep_keeps g1).1 h1]; rfl

theorem linesLoop_proj {dec : Nat → Bool} {d : Def} {defs : List Def}
    (hp : defs.Pairwise (fun a b => a.id ≠ b.id)) :
    ∀ {is : List Nat} {ls ls' : LSt} {st : DSt} {out : List Res}, ProjInv d defs ls st out →
      linesLoop dec defs ls is = .ok ls' →
      ∃ st' o, soloLoop d st is = .ok (st', o) ∧ ProjInv d defs ls' st' (out ++ o)
  | [], _, _, st, _, hI, h => by cases h; exact ⟨st, [], rfl, by rwa [List.append_nil]⟩
  | i :: is, _, _, _, _, hI, h => by
    simp only [linesLoop, bind_ok] at h
    obtain ⟨_, hl, hrest⟩ := h
    obtain ⟨st1, o, g1, hI1⟩ := lineStep_proj hp hI hl
    obtain ⟨st', os, k1, hI'⟩ := linesLoop_proj hp hI1 hrest
    exact ⟨st', o ++ os, soloLoop_cons_ok.mpr ⟨st1, o, os, g1, k1, rfl⟩, by
      rwa [List.append_assoc] at hI'⟩

theorem eofAll_lookup {n id : Nat} {d : Def} {defs sts finals st}
    (h : eofAll n defs sts = .ok finals) (hs : stOf id defs sts = some (d, st)) :
    ∃ fin, eofDef n d st = .ok fin ∧ finals.lookup id = some fin := by
  fun_induction stOf id defs sts generalizing finals with
  | case3 => cases hs
  | case1 d' ds s ss he =>
    simp only [eofAll, bind_ok, pure_ok] at h
    obtain ⟨r, h1, rs, h2, rfl⟩ := h
    cases hs
    exact ⟨r, h1, by simp [List.lookup, he]⟩
  | case2 d' ds s ss he ih =>
    simp only [eofAll, bind_ok, pure_ok] at h
    obtain ⟨r, h1, rs, h2, rfl⟩ := h
    obtain ⟨fin, g1, g2⟩ := ih h2 hs
    have : (id == d'.id) = false := by simp [Ne.symm he]
    exact ⟨fin, g1, by simp [List.lookup, this, g2]⟩

theorem eofAll_src {n defs sts finals} (h : eofAll n defs sts = .ok finals) (ha : AllInv defs sts)
    (id : Nat) : ∀ r ∈ (finals.lookup id).getD [], r.src = id := by
  fun_induction eofAll n defs sts generalizing finals with
  | case1 d' ds s ss ih =>
    simp only [bind_ok, pure_ok] at h
    obtain ⟨r, h1, rs, h2, rfl⟩ := h
    simp only [List.lookup]
    cases hb : (id == d'.id)
    · exact ih h2 ha.2
    · rw [beq_iff_eq.mp hb]
      exact fun r hr => (eofDef_src h1 ha.1 r hr).1
  | case2 => cases h; simp [List.lookup]

theorem filter_flatMap_src {k : Nat} {f : Nat → List Res} (hf : ∀ id, ∀ r ∈ f id, r.src = id) :
    ∀ (order : List Nat), (order.flatMap f).filter (fun r => r.src == k)
      = (order.filter (fun x => x == k)).flatMap f
  | [] => rfl
  | x :: xs => by
    simp only [List.flatMap_cons, List.filter_append, filter_flatMap_src hf xs, List.filter_cons]
    by_cases hx : x = k
    · subst hx; simp [filter_src_all (hf x)]
    · simp [hx, filter_src_none (hf x) hx]

theorem dedup_mem {ds : List Def} {seen : List Nat} {x : Def} (h : x ∈ dedupDefs ds seen) :
    x ∈ ds ∧ x.id ∉ seen := by
  fun_induction dedupDefs ds seen with
  | case1 => cases h
  | case2 d ds seen hc ih => exact ⟨List.mem_cons_of_mem _ (ih h).1, (ih h).2⟩
  | case3 d ds seen hc ih =>
    rcases List.mem_cons.mp h with rfl | h
    · exact ⟨List.mem_cons_self, by simpa using hc⟩
    · exact ⟨List.mem_cons_of_mem _ (ih h).1, fun hm => (ih h).2 (List.mem_cons_of_mem _ hm)⟩

theorem dedup_pairwise (ds : List Def) (seen : List Nat) :
    (dedupDefs ds seen).Pairwise (fun a b => a.id ≠ b.id) := by
  fun_induction dedupDefs ds seen with
  | case1 => exact .nil
  | case2 d ds seen hc ih => exact ih
  | case3 d ds seen hc ih =>
    exact .cons (fun x hx he => (dedup_mem hx).2 (he ▸ List.mem_cons_self)) ih

theorem dedup_keeps {ds : List Def} {seen : List Nat} {d : Def} (h : d ∈ ds) (hs : d.id ∉ seen)
    (hH : ∀ x ∈ ds, x.id = d.id → x = d) : d ∈ dedupDefs ds seen := by
  fun_induction dedupDefs ds seen with
  | case1 => cases h
  | case2 d' ds seen hc ih =>
    refine ih ((List.mem_cons.mp h).resolve_left ?_) hs fun x hx => hH x (List.mem_cons_of_mem _ hx)
    rintro rfl
    exact hs (by simpa using hc)
  | case3 d' ds seen hc ih =>
    by_cases he : d'.id = d.id
    · rw [hH d' List.mem_cons_self he]; exact List.mem_cons_self
    · refine List.mem_cons_of_mem _ (ih ((List.mem_cons.mp h).resolve_left fun e => he (e ▸ rfl)) ?_
        fun x hx => hH x (List.mem_cons_of_mem _ hx))
      simpa [List.mem_cons, hs] using Ne.symm he

theorem stOf_init {d : Def} : ∀ {defs : List Def},
    d ∈ defs → (∀ x ∈ defs, x.id = d.id → x = d) →
    stOf d.id defs (defs.map DSt.init) = some (d, DSt.init d)
  | [], h, _ => by simp at h
  | d' :: ds, h, hH => by
    simp only [List.map_cons, stOf]
    split
    · rename_i he
      rw [hH d' (by simp) he]
    · rename_i he
      simp only [List.mem_cons] at h
      rcases h with rfl | h
      · exact absurd rfl he
      · exact stOf_init h (fun x hx => hH x (by simp [hx]))

theorem AllInv_init : ∀ (defs : List Def), AllInv defs (defs.map DSt.init)
  | [] => trivial
  | d :: ds => ⟨DInv_init d, AllInv_init ds⟩

theorem runTask_stats (t : TaskIn) (rs : List Res) (st : Stats) (h : runTask t = .ok (rs, st)) :
    st.lines = t.n ∧ st.results = rs.length := by
  simp only [runTask, bind_ok, pure_ok, Prod.mk.injEq] at h
  obtain ⟨ls, _, finals, _, rfl, rfl⟩ := h
  exact ⟨rfl, rfl⟩

theorem runTask_proj (t : TaskIn) (hwf : DefsWF t.defs) (d : Def) (hd : d ∈ t.defs)
    (rs : List Res) (st : Stats) (hrun : runTask t = .ok (rs, st)) :
    ∃ stF out fin,
      soloLoop d (DSt.init d) (List.range t.n) = .ok (stF, out) ∧
      eofDef t.n d stF = .ok fin ∧
      rs.filter (fun r => r.src == d.id) = out ++ fin := by
  simp only [runTask, bind_ok, pure_ok, Prod.mk.injEq] at hrun
  obtain ⟨ls, hloop, finals, heof, rfl, _⟩ := hrun
  have hp := dedup_pairwise t.defs []
  have hH : ∀ x ∈ dedupDefs t.defs [], x.id = d.id → x = d :=
    fun x hx he => hwf x (dedup_mem hx).1 d hd he
  have hmem := dedup_keeps (seen := []) hd (by simp) (hwf · · d hd)
  obtain ⟨stF, out, hsolo, hst, hsimple, horder⟩ :=
    linesLoop_proj hp ⟨stOf_init hmem hH, rfl, rfl⟩ hloop
  have hall := linesLoop_allInv hloop (AllInv_init _)
  obtain ⟨fin, hfin, hlook⟩ := eofAll_lookup heof hst
  refine ⟨stF, out, fin, hsolo, hfin, ?_⟩
  rw [List.filter_append, hsimple, filter_flatMap_src (eofAll_src heof hall), horder]
  simp only [List.filter_nil, List.nil_append]
  congr 1
  -- `d.id` is in `order` iff `d` ever filed a sequence result; if it never did, `fin` is empty
  cases hE : stF.everAdded
  · simp [eofDef_notAdded hfin (soloLoop_inv hsolo (DInv_init d)) hE]
  · simp [hlook]

end Sk
