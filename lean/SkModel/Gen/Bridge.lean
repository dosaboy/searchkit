/-
  SkModel.Gen.Bridge — the translated functions (`Generated.lean`, regenerated from the source
  of searchkit on every run) ARE the hand-written model functions the property theorems speak
  about.  When the source changes, these theorems are re-checked against the new translation.
-/
import SkModel.Gen.Generated
import SkModel.Runner
import SkModel.Since
import SkModel.NameRx
import SkModel.Proofs.SeekShape
import SkModel.Theorems.C16

namespace Sk.Gen
open Sk.Py

/-- how the model's `Except SeekErr` outcomes appear as Python outcomes -/
def errName : SeekErr → String
  | .maxLineLen => "MaxSearchableLineLengthReached"
  | .assertFailed => "AssertionError"
  | .tooManyUndated => "TooManyLinesWithoutDate"
  | .noTimestamps => "NoTimestampsFoundInFile"
  | .noValidLines => "NoValidLinesFoundInFile"

def ofSeek {α : Type} : Except SeekErr α → Py.Res α
  | .ok t => .ret t
  | .error e => .exc (errName e)

theorem readAt_nat (F : FileV) (p k : Nat) :
    Py.readAt F (p : Int) (k : Int) = ⟨p, readLen F p k⟩ := by
  have h : ¬ ((k : Int) < 0) := by omega
  simp [Py.readAt, readLen, h]

theorem len_cond (l : Nat) : ((¬ (l ≠ 0)) ∨ ((l : Int) = (0 : Int))) ↔ l = 0 := by omega

theorem chunk_find_eq (F : FileV) (p l : Nat) :
    Py.Chunk.find F ⟨p, l⟩ =
      match findLF F p l with
      | some i => (i : Int) - p
      | none => -1 := rfl

theorem chunk_rfind_eq (F : FileV) (p l : Nat) :
    Py.Chunk.rfind F ⟨p, l⟩ =
      match rfindLF F p l with
      | some i => (i : Int) - p
      | none => -1 := rfl

theorem ft_loop (K : SeekK) (F : FileV) (start saved : Int) :
    ∀ (n p : Nat) (cur : Int) (g : Nat), n < g → start + cur = (p : Int) →
      find_token.loop1 K F start (p : Int) saved (n : Int) cur g = ofSeek (ftLoop K F n p)
  | _, _, _, 0, hg, _ => absurd hg (Nat.not_lt_zero _)
  | 0, _, _, g + 1, _, _ => by simp [find_token.loop1, ftLoop, ofSeek, errName]
  | n + 1, p, cur, g + 1, hg, hp => by
    have hpos : ((n + 1 : Nat) : Int) > 0 := by omega
    simp only [find_token.loop1, ftLoop, hpos, if_true, readAt_nat, chunk_find_eq, len_cond]
    by_cases h0 : readLen F p K.H = 0
    · simp [h0, ofSeek]
    · simp only [h0, if_false]
      cases hfind : findLF F p (readLen F p K.H) with
      | some i =>
        have := (findLF_some hfind).1
        have hne : ¬ ((i : Int) - (p : Int) = -1) := by omega
        have he : start + cur + ((i : Int) - (p : Int)) = (i : Int) := by omega
        simp [ofSeek, hne, he]
      | none =>
        have := ft_loop K F start saved n (p + readLen F p K.H) (cur + (readLen F p K.H : Int)) g
          (by omega) (by omega)
        simp [← this]

theorem ftr_loop (K : SeekK) (F : FileV) (start : Nat) (saved : Int) :
    ∀ (g n : Nat) (cur pos : Int), n < g → -(K.H : Int) ≤ (start : Int) + cur →
      find_token_reverse.loop1 K F (start : Int) pos saved ((n + 1 : Nat) : Int) cur g
        = ofSeek (ftrLoop K F start (n + 1) cur)
  | 0, _, _, _, hg, _ => absurd hg (Nat.not_lt_zero _)
  | g + 1, n, cur, pos, hg, hinv => by
    have hoff : (if (start : Int) + cur > 0 then (start : Int) + cur else 0)
        = ((if (start : Int) + cur > 0 then ((start : Int) + cur).toNat else 0 : Nat) : Int) := by
      split <;> omega
    -- the size handed to `read` is never negative: the invariant `-H ≤ start + cur`
    have hsize : (if (start : Int) + cur ≤ 0 then (K.H : Int) + ((start : Int) + cur) else (K.H : Int))
        = ((if (start : Int) + cur > 0 then K.H else ((K.H : Int) + ((start : Int) + cur)).toNat : Nat) : Int) := by
      split <;> split <;> omega
    simp only [find_token_reverse.loop1, ftrLoop, hoff, hsize]
    generalize (if (start : Int) + cur > 0 then ((start : Int) + cur).toNat else 0 : Nat) = r
    generalize (if (start : Int) + cur > 0 then K.H
      else ((K.H : Int) + ((start : Int) + cur)).toNat : Nat) = s
    have hr : ¬ ((r : Int) < 0) := by omega
    simp only [hr, if_false, readAt_nat, chunk_rfind_eq, len_cond]
    by_cases h0 : readLen F r s = 0
    · simp [h0, ofSeek]
    · simp only [h0, if_false]
      cases hfind : rfindLF F r (readLen F r s) with
      | some i =>
        have := (rfindLF_some hfind).1
        have hne : ¬ ((i : Int) - (r : Int) = -1) := by omega
        have he : (r : Int) + ((i : Int) - (r : Int)) = (i : Int) := by omega
        simp [ofSeek, hne, he]
      | none =>
        have hatt : (((n + 1 : Nat) : Int) - 1 ≤ 0) ↔ n = 0 := by omega
        simp only [hatt]
        cases n with
        | zero => simp [ofSeek, errName]
        | succ m =>
          by_cases hedge : (start : Int) + (cur - (readLen F r s : Int)) ≤ -(K.H : Int)
          · simp [hedge, ofSeek]
          · have h1 : ((m + 1 + 1 : Nat) : Int) - 1 = ((m + 1 : Nat) : Int) := by omega
            simp only [Nat.add_one_ne_zero, hedge, if_false, h1]
            exact ftr_loop K F start saved g m (cur - (readLen F r s : Int))
              ((r : Int) + (readLen F r s : Int)) (by omega) (by omega)

/-- `FileSearcher.num_parallel_tasks` as written = `Sk.numParallel` (C18) -/
theorem bridge_num_parallel_tasks (m c f : Nat) :
    num_parallel_tasks (m : Int) (c : Int) (f : Int) = .ret ((numParallel m c f : Nat) : Int) := by
  unfold num_parallel_tasks numParallel
  congr 1
  -- by cases and arithmetic, not by rewriting: a source that computes the same value another
  -- way (returning 1 at once when the limit is 0) is then still proved
  by_cases hm : m = 0 <;> by_cases hf : f = 0 <;> simp [hm, hf] <;> omega

/-- the window fixed by `SearchConstraintSearchSince.__init__` + `since_date` as written
    = `Sk.windowSeconds` (C16) -/
theorem bridge_since_window (d h : Int) :
    since_window d h = .ret (windowSeconds d h) := by
  unfold since_window windowSeconds
  congr 1
  by_cases hd : d = 0 <;> by_cases hh : h = 0 <;> simp [hd, hh]

/-- `find_token` as written = `Sk.findToken` (C11, C04, C13), for every file, every
    offset, every value of the two constants, whatever the file position was before, and any
    loop fuel above `EXP` (`hf`) -/
theorem bridge_find_token (K : SeekK) (F : FileV) (start : Nat) (pos0 : Int) (fuel : Nat)
    (hf : K.EXP < fuel) :
    find_token K F (start : Int) pos0 fuel = ofSeek (findToken K F start) := by
  have hs : ¬ ((start : Int) < 0) := by omega
  simp only [find_token, findToken, hs, if_false]
  exact ft_loop K F _ _ _ _ _ _ hf (by omega)

/-- `find_token_reverse` as written = `Sk.findTokenReverse`.  `0 < EXP`: with a limit of zero
    attempts the code still reads one chunk, the model refuses at once. -/
theorem bridge_find_token_reverse (K : SeekK) (F : FileV) (start : Nat) (pos0 : Int)
    (fuel : Nat) (hf : K.EXP < fuel) (hE : 0 < K.EXP) :
    find_token_reverse K F (start : Int) pos0 fuel = ofSeek (findTokenReverse K F start) := by
  obtain ⟨n, hn⟩ : ∃ n, K.EXP = n + 1 := ⟨K.EXP - 1, by omega⟩
  simp only [find_token_reverse, findTokenReverse, hn]
  exact ftr_loop K F start _ fuel n _ _ (by omega) (by omega)

theorem ite_and_else {α : Type} {p q : Prop} [Decidable p] [Decidable q] (a b : α) :
    (if p then if q then a else b else b) = if p ∧ q then a else b := by
  by_cases hp : p <;> by_cases hq : q <;> simp [hp, hq]

theorem tfl_checks (F : FileV) (a b : Tok) :
    (if a.off ≤ (F.len : Int) then
      if a.off ≥ (0 : Int) then
        if b.off ≤ (F.len : Int) then
          if b.off ≥ (0 : Int) then
            if b.off ≥ a.off then Py.Res.ret (LLine.mk a b)
            else Py.Res.exc "AssertionError"
          else Py.Res.exc "AssertionError"
        else Py.Res.exc "AssertionError"
      else Py.Res.exc "AssertionError"
    else Py.Res.exc "AssertionError") =
    ofSeek (if a.off ≤ F.len ∧ 0 ≤ a.off ∧ b.off ≤ F.len ∧ 0 ≤ b.off ∧ a.off ≤ b.off then
      Except.ok ⟨a, b⟩ else Except.error SeekErr.assertFailed) := by
  rw [apply_ite ofSeek]
  simp only [ite_and_else]
  rfl

/-- `try_find_line` as written = `Sk.tryFindLine` (C11, C04): the two scans (or the known line
    feeds), the five range assertions, the `LogLine` built from them. -/
theorem bridge_try_find_line (K : SeekK) (F : FileV) (epi : Nat) (slf elf : Option Int)
    (pos0 : Int) (fuel : Nat) (hf : K.EXP < fuel) (hE : 0 < K.EXP) :
    try_find_line K F (epi : Int) slf elf pos0 fuel = ofSeek (tryFindLine K F epi slf elf) := by
  unfold try_find_line tryFindLine
  cases slf <;> cases elf <;>
    simp only [bridge_find_token K F epi _ fuel hf,
      bridge_find_token_reverse K F epi _ fuel hf hE, bind, Except.bind, pure, Except.pure]
  · cases h1 : findToken K F epi <;> simp only [ofSeek]
    cases h2 : findTokenReverse K F epi <;> dsimp only
    exact tfl_checks F _ _
  · cases h2 : findTokenReverse K F epi <;> simp only [ofSeek]
    exact tfl_checks F _ _
  · cases h1 : findToken K F epi <;> simp only [ofSeek]
    exact tfl_checks F _ _
  · exact tfl_checks F _ _

/-- `_line_date_is_valid` as written: `ts is not None and ts >= since` -/
theorem bridge_line_date_is_valid (since : Int) (ts : Option Int) :
    line_date_is_valid since ts =
      .ret (match ts with | none => false | some t => decide (since ≤ t)) := by
  unfold line_date_is_valid
  cases ts with
  | none => rfl
  | some t =>
    by_cases h : t < since
    · have h' : ¬ since ≤ t := by omega
      simp [h, h']
    · have h' : since ≤ t := by omega
      simp [h, h']

/-- how the model's outcome + counters appear as the translated function's result -/
def ofCount (r : SinceStats × COut) : Py.Res (Bool × Int × Int) :=
  match r.2 with
  | .pass => .ret (true, (r.1.pass : Int), (r.1.fail : Int))
  | .fail => .ret (false, (r.1.pass : Int), (r.1.fail : Int))
  | .undec => .exc "CouldNotApplyConstraint"

/-- `apply_to_line` as written (timestamp extraction = the oracle argument, datetimes as their
    second counts) = the model's `applyCount` on valid calendar values (C16): same outcome, same
    counters. -/
theorem bridge_apply_to_line (since : Civil) (ts : Option Civil) (st : SinceStats)
    (hs : since.valid = true) (ht : ∀ t, ts = some t → t.valid = true) :
    apply_to_line since.toSeconds (ts.map Civil.toSeconds) (st.pass : Int) (st.fail : Int) =
      ofCount (applyCount since st ts) := by
  cases ts with
  | none => simp [apply_to_line, applyCount, applyToLine, ofCount]
  | some t =>
    have ho := civil_order t since (ht t rfl) hs
    have h' : since.toSeconds ≤ t.toSeconds ↔ t.lt since = false := by
      rw [← Bool.not_eq_true, ho]; omega
    cases hlt : t.lt since <;>
      simp [apply_to_line, bridge_line_date_is_valid, applyCount, applyToLine, ofCount, hlt, h']

/-- the two ways the known line feed is handed to `try_find_line`, as the model writes them -/
theorem twd_args (fwd : Bool) (lfo : Option Int) :
    (if (decide (¬ (fwd = true))) = true then lfo else none) = (if fwd = true then none else lfo) := by
  cases fwd <;> simp

theorem twd_loop (K : SeekK) (F : FileV) (ts : Nat → Option Int) (start : Int) (fwd : Bool)
    (hE : 0 < K.EXP) :
    ∀ (n o : Nat) (lfo : Option Int) (pos : Int) (g : Nat), K.EXP + n < g →
      try_find_line_with_date.loop1 K F ts start lfo fwd pos (n : Int) (o : Int) g
        = ofSeek (twdLoop K F ts fwd n o lfo)
  | _, _, _, _, 0, hg => absurd hg (Nat.not_lt_zero _)
  | 0, _, _, _, g + 1, _ => by simp [try_find_line_with_date.loop1, twdLoop, ofSeek]
  | n + 1, o, lfo, pos, g + 1, hg => by
    have hpos : ((n + 1 : Nat) : Int) > 0 := by omega
    have h1 : ((n + 1 : Nat) : Int) - 1 = (n : Int) := by omega
    simp only [try_find_line_with_date.loop1, twdLoop, hpos, if_true, h1, twd_args,
      bridge_try_find_line K F o _ _ _ g (by omega) hE, bind, Except.bind, pure, Except.pure]
    cases hl : tryFindLine K F o (if fwd = true then lfo else none)
        (if fwd = true then none else lfo) with
    | error e => simp only [ofSeek]
    | ok l =>
      simp only [ofSeek]
      cases hd : LLine.date ts l with
      | some d => simp
      | none =>
        simp only [ne_eq, not_true_eq_false, if_false]
        have hlf : (if fwd = true then l.elf.off else l.slf.off)
            = (if fwd = true then l.elf else l.slf).off := by
          cases fwd <;> simp
        simp only [hlf]
        generalize (if fwd = true then l.elf else l.slf).off = lf
        have hoff : (if fwd = true then lf + 1 else lf - 1)
            = lf + (if fwd = true then (1 : Int) else -1) := by
          cases fwd <;> simp <;> omega
        simp only [hoff]
        generalize lf + (if fwd = true then (1 : Int) else -1) = q
        by_cases hr : q < 0 ∨ q > (F.len : Int)
        · simp [hr]
        · obtain ⟨m, rfl⟩ : ∃ m : Nat, q = (m : Int) := ⟨q.toNat, by omega⟩
          simp only [hr, if_false, Int.toNat_natCast]
          exact twd_loop K F ts start fwd hE n m (some lf) 0 g (by omega)

/-- `try_find_line_with_date` as written = `Sk.tryFindLineWithDate` (C04, C11): the walk over at
    most ATT undated lines in either direction, for every timestamp oracle. -/
theorem bridge_try_find_line_with_date (K : SeekK) (F : FileV) (ts : Nat → Option Int)
    (start : Nat) (lfo : Option Int) (fwd : Bool) (pos0 : Int) (fuel : Nat)
    (hf : K.EXP + K.ATT < fuel) (hE : 0 < K.EXP) :
    try_find_line_with_date K F ts (start : Int) lfo fwd pos0 fuel =
      ofSeek (tryFindLineWithDate K F ts start lfo fwd) := by
  simp only [try_find_line_with_date, tryFindLineWithDate]
  exact twd_loop K F ts _ fwd hE K.ATT start lfo pos0 fuel hf

open SeekL1 SeekShape in
theorem lineLen_ne_zero {F : FileV} {ts : Nat → Option Int} {S : Tok → Prop} {l : LLine}
    (hts : ∀ o, ts o ≠ none → o < F.len ∧ F.isLF o = false)
    (hl : GoodLine F ts S (Side (RealEnd F) none) l) : Py.lineLen l ≠ 0 := by
  obtain ⟨_, hend, _, hd⟩ := hl
  -- the timestamp sits at the start offset: that byte exists and is not a line feed
  obtain ⟨h1, h2⟩ := hts l.startOffset.toNat fun hn => by rw [LLine.date, hn] at hd; cases hd
  intro hz
  unfold Py.lineLen LLine.endOffset at hz
  rcases hend.of_none with he | ⟨j, he, _, j2, _⟩
  · rw [he] at hz; dsimp only at hz; omega
  · rw [he] at hz; dsimp only at hz
    have : l.startOffset.toNat = j := by omega
    rw [this, j2] at h2; cases h2

theorem ret_ite {α β γ : Type} {c : Prop} [Decidable c] (a : α) (b : β) (x y : γ) :
    (if c then Py.Res.ret (a, b, x) else .ret (a, b, y)) = .ret (a, b, if c then x else y) := by
  split <;> rfl

open SeekShape in
/-- `__getitem__` as written = `Sk.getItem` + the bookkeeping `bisectLoop` does around it
    (`found_any_date`, `line_info`), for every file, offset and oracle, for constants with
    `0 < K.EXP` and enough fuel (`hf`) - under one further assumption, `hts`: a timestamp is only
    ever recognised at an existing byte that is not a line feed, so a dated line is never EMPTY.
    The code tests `not result`, and a `LogLine` of length 0 is falsy (`__len__`), where the model
    tests for `none` only: on a dated empty line the two differ.  Harmless: a matcher anchored at
    the start of a line needs a byte to match (`hts` is H4 of the seek theorems,
    `C04Hyps.tsShape`; the form their proofs use, `TsOk`, follows from it by `tsOk_of_shape`).
    Skeleton: up to three `tryFindLineWithDate` calls (back from `off`, forward from `off + 1`,
    forward past the end of that line); each line returned is dated (`twd_post`), hence not empty
    (`lineLen_ne_zero`), and that decides the `not result` test. -/
theorem bridge_getitem (K : SeekK) (F : FileV) (ts : Nat → Option Int) (since : Int)
    (off : Nat) (fa : Bool) (li : Option LLine) (pos0 : Int) (fuel : Nat)
    (hf : K.EXP + K.ATT < fuel) (hE : 0 < K.EXP)
    (hts : ∀ o, ts o ≠ none → o < F.len ∧ F.isLF o = false) :
    getitem K F ts since (off : Int) fa li pos0 fuel =
      match getItem K F ts off with
      | .error e => .exc (errName e)
      | .ok l => .ret (l.date ts, true, if (l.date ts).getD 0 ≥ since then some l else li) := by
  have hoff1 : (off : Int) + 1 = ((off + 1 : Nat) : Int) := by omega
  unfold getitem
  rw [getItem_eq]
  simp only [hoff1, bridge_try_find_line_with_date K F ts _ _ _ _ fuel hf hE]
  cases h1 : tryFindLineWithDate K F ts off none false with
  | error e => simp only [ofSeek, Except.bind]
  | ok r1 =>
    cases r1 with
    | some l1 =>
      have g1 := (twd_post K F ts false _ _ _).of_ok h1 l1 rfl
      have hlen := lineLen_ne_zero hts g1
      obtain ⟨d, hd⟩ := Option.isSome_iff_exists.mp g1.2.2.2
      simp only [ofSeek, Except.bind, ne_eq, hlen, hd, not_false_eq_true, not_true_eq_false,
        reduceCtorEq, or_self, if_false, ret_ite, Option.getD_some]
    | none =>
      simp only [ofSeek, Except.bind]
      cases h2 : tryFindLineWithDate K F ts (off + 1) (some (off : Int)) true with
      | error e => simp only []
      | ok r2 =>
        cases r2 with
        | none => simp only [errName]
        | some l2 =>
          have g2 := (twd_post K F ts true _ _ _).of_ok h2 l2 rfl
          have hlen := lineLen_ne_zero hts g2
          obtain ⟨d, hd⟩ := Option.isSome_iff_exists.mp g2.2.2.2
          simp only [hlen, hd, if_false]
          have hlf : isLineFeed F (off : Int) = (decide (off < F.len) && F.isLF off) := by
            simp [isLineFeed]
          by_cases hs : l2.slf.off = (off : Int)
          · cases hb : (decide (off < F.len) && F.isLF off) with
            | true =>
              simp only [hs, hlf, hb, if_true, true_and, Bool.not_true, Bool.false_eq_true, if_false,
                ne_eq, hlen, hd, not_false_eq_true, not_true_eq_false, reduceCtorEq, or_self,
                ret_ite, Option.getD_some]
            | false =>
              simp only [hs, hlf, hb, if_true, true_and, Bool.not_false, Bool.false_eq_true, if_false]
              cases he : l2.elf with
              | edge e => simp only [tokStatus, errName, reduceCtorEq, if_false]
              | found e =>
                have he0 : 0 ≤ e := by
                  have := g2.2.2.1.2.2.2.1
                  rw [he] at this
                  exact this
                have he1 : e + 1 = (((e + 1).toNat : Nat) : Int) := by omega
                simp only [tokStatus, if_true, off_found]
                rw [he1, bridge_try_find_line_with_date K F ts _ _ _ _ fuel hf hE, ← he1]
                cases h3 : tryFindLineWithDate K F ts (e + 1).toNat (some e) true with
                | error e3 => simp only [ofSeek]
                | ok r3 =>
                  cases r3 with
                  | none => simp only [ofSeek, fin, errName]
                  | some l3 =>
                    have g3 := (twd_post K F ts true _ _ _).of_ok h3 l3 rfl
                    have hlen3 := lineLen_ne_zero hts g3
                    obtain ⟨d3, hd3⟩ := Option.isSome_iff_exists.mp g3.2.2.2
                    simp only [ofSeek, fin, hlen3, hd3, if_false, ret_ite, Option.getD_some]
          · simp only [hs, false_and, if_false, ne_eq, hlen, hd, not_false_eq_true,
              not_true_eq_false, reduceCtorEq, or_self, ret_ite, Option.getD_some]

theorem apply_single_loop (outs : List COut) : ∀ (l : List COut) (a b : Bool),
    apply_single.loop1 outs a b l = .ret (applySingleGo l a b)
  | [], _, _ => rfl
  | c :: r, a, b => by cases c <;> simp [apply_single.loop1, applySingleGo, apply_single_loop outs r]

/-- `apply_single` as written (what each constraint says about the line = the oracle list, a
    constraint that cannot be applied = `CouldNotApplyConstraint` raised and caught) =
    `Sk.applySingle`: the (line_is_valid, all_constraints_passed) pair that gates a search
    with its own constraints - including the behaviour recorded as known finding D10. -/
theorem bridge_apply_single (outs : List COut) :
    apply_single outs = .ret (applySingle outs) := by
  unfold apply_single applySingle
  cases outs with
  | nil => simp
  | cons c r => simp [apply_single_loop]

/-- `logrotate_log_sort` as written = `Sk.logrotateKey` (C09): the order in which the three
    expressions are tried, 0 for a match without a group, the number for a match with one,
    100000 when none matches.  The expressions themselves are the hand-written NameRx model
    (`PyPrim.rxLive / rxRot / rxRotGz`); what is translated and proved is the control flow
    around them. -/
theorem bridge_logrotate_log_sort (s : List Char) :
    logrotate_log_sort s = .ret (logrotateKey s) := by
  unfold logrotate_log_sort logrotateKey rxLive rxRot rxRotGz
  simp only []
  generalize stripFinalNL s = b
  generalize hA : (allNonSpace b && endsWith dotLog b && decide (b.length ≥ 5)) = A
  generalize h2 : rxLogN b = r2
  generalize h3z : (if endsWith ['.', 'g', 'z'] b = true then
      rxLogN (List.take (b.length - ['.', 'g', 'z'].length) b) else none) = r3z
  generalize h3 : (if endsWith ['.', 'g'] b = true then
      rxLogN (List.take (b.length - ['.', 'g'].length) b) else none) = r3
  cases A <;> cases r2 <;> cases r3z <;> cases r3 <;> simp

#print axioms bridge_num_parallel_tasks
#print axioms bridge_since_window
#print axioms bridge_find_token
#print axioms bridge_find_token_reverse
#print axioms bridge_try_find_line
#print axioms bridge_line_date_is_valid
#print axioms bridge_apply_to_line
#print axioms Sk.Gen.bridge_try_find_line_with_date
#print axioms Sk.Gen.bridge_getitem

end Sk.Gen
#print axioms Sk.Gen.bridge_apply_single
#print axioms Sk.Gen.bridge_logrotate_log_sort
