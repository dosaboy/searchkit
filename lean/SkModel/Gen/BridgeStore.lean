/-
  SkModel.Gen.BridgeStore — the translated store functions (`allocations`, `_allocate_next`,
  `_add_to_store` of `ResultStoreBase`, `Generated.lean`) ARE the model's `Store.refresh`,
  `Store.allocNext`, `Store.addTo` on every store that satisfies the store invariant
  (`Store.Inv`, which every reachable store does: `Store.Reach.inv`).  Python dicts are
  association lists in insertion order, the pre-allocator is the oracle `sup` (start of the
  k-th block it hands out; the block is `range(sup k, sup k + B)`).
-/
import SkModel.Gen.Generated
import SkModel.Store
import SkModel.Proofs.StoreInv

namespace Sk.Gen
open Sk.Py Sk.StoreInv

/-- the list `range(a, a + B)` the pre-allocator returns -/
def rng (B a : Nat) : List Nat := List.range' a B

/-- the Python-side `_allocations` (a list or None) of a model store -/
def allocsOf (st : Store) : Option (List Nat) := st.alloc.map (rng st.B)

theorem listLast_rng {B a : Nat} (hB : 0 < B) : listLast (rng B a) = a + B - 1 := by
  unfold listLast rng
  obtain ⟨n, rfl⟩ : ∃ n, B = n + 1 := ⟨B - 1, by omega⟩
  rw [List.range'_concat]
  simp

theorem dictHas_eq (st : Store) (i : Nat) : dictHas st.data i = st.hasKey i := rfl

/-- The translation returns (value of the property, new `self._allocations`, new block counter).
    The counter, the model's `nblocks`, is the translator's: it numbers the calls of
    `f_preallocator`; Python keeps none. -/
theorem allocations_eq (sup : Nat → Nat) (s : Store) (hB : 0 < s.B) :
    allocations s.pre s.B (fun k => rng s.B (sup k)) s.data (allocsOf s) s.nblocks =
      .ret (if s.pre then allocsOf (s.refresh sup) else none,
            allocsOf (s.refresh sup), (s.refresh sup).nblocks) := by
  obtain ⟨B, pre, data, vs, ts, ss, al, nb⟩ := s
  simp only at hB
  cases pre
  · simp [allocations, Store.refresh, allocsOf]
  · cases al with
    | none => simp [allocations, Store.refresh, allocsOf]
    | some a =>
      simp only [allocations, Store.refresh, allocsOf, Option.map, listLast_rng hB, Store.hasKey, dictHas]
      have hc : (data ≠ [] ∧ data.length % B = 0 ∧ data.any (fun p => p.1 == a + B - 1) = true) ↔
          (!data.isEmpty && data.length % B == 0 && data.any (fun p => p.1 == a + B - 1)) = true := by
        simp [and_assoc]
      simp only [hc]
      by_cases hcond : (!data.isEmpty && data.length % B == 0 && data.any (fun p => p.1 == a + B - 1)) = true <;> simp [hcond]

/-- the `allocations` property as written = `Store.refresh` (C15) -/
theorem bridge_allocations {B : Nat} {pre : Bool} {sup : Nat → Nat} {st : Store}
    (hB : 0 < B) (hsup : BlocksDisjoint sup B) (inv : Store.Inv B pre sup st) :
    allocations st.pre st.B (fun k => rng st.B (sup k)) st.data (allocsOf st) st.nblocks =
      .ret (if st.pre then allocsOf (st.refresh sup) else none,
            allocsOf (st.refresh sup), (st.refresh sup).nblocks) := by
  have h := inv.hB; subst h
  exact allocations_eq sup st hB

theorem loop1_eq (pre : Bool) (B : Nat) (alloc : Nat → List Nat) (v : Val)
    (data : List (Nat × Val)) (al : Option (List Nat)) (nb : Nat) : ∀ l : List (Nat × Val),
    allocate_next.loop1 pre B alloc v data al nb l =
      match l.find? (fun p => p.2 == v) with
      | some p => .ret (p.1, data, al, nb)
      | none => allocate_next.loop1 pre B alloc v data al nb []
  | [] => by simp
  | (i, w) :: l => by
    conv => lhs; rw [allocate_next.loop1]
    rw [List.find?_cons]
    by_cases h : v = w
    · subst h; simp
    · have : (w == v) = false := by simpa using fun e => h e.symm
      simp only [h, if_false, this]
      exact loop1_eq pre B alloc v data al nb l

theorem loop2_eq (pre : Bool) (B : Nat) (alloc : Nat → List Nat) (v : Val)
    (data : List (Nat × Val)) (al : Option (List Nat)) (nb : Nat) (c5 : Option (List Nat))
    (l6 : List Nat) : ∀ l : List Nat,
    allocate_next.loop2 pre B alloc v data al nb c5 l6 l =
      match l.find? (fun i => !dictHas data i) with
      | some i => .ret (i, dictSet data i v, al, nb)
      | none => .exc "ResultStoreException"
  | [] => by simp [allocate_next.loop2]
  | i :: l => by
    rw [allocate_next.loop2, List.find?_cons]
    cases h : dictHas data i
    · simp
    · simp only [not_true, if_false, Bool.not_true]
      exact loop2_eq pre B alloc v data al nb c5 l6 l

theorem dictSet_free {d : List (Nat × Val)} {i : Nat} (h : dictHas d i = false) (v : Val) :
    dictSet d i v = d ++ [(i, v)] := by simp [dictSet, h]

/-- `_allocate_next` as written = `Store.allocNext` (C15, C06): the equality scan over the
    table, the (twice evaluated) `allocations` property, the first free index of the block,
    `len(data)` without a pre-allocator, the insertion. -/
theorem bridge_allocate_next {B : Nat} {pre : Bool} {sup : Nat → Nat} {st : Store}
    (hB : 0 < B) (hsup : BlocksDisjoint sup B) (inv : Store.Inv B pre sup st) (v : Val) :
    allocate_next st.pre st.B (fun k => rng st.B (sup k)) v st.data (allocsOf st) st.nblocks =
      match st.allocNext sup v with
      | .error _ => .exc "ResultStoreException"
      | .ok (s2, i) => .ret (i, s2.data, allocsOf s2, s2.nblocks) := by
  have h1 := inv.hB; subst h1
  rw [allocate_next, loop1_eq]
  cases hf : st.data.find? (fun p => p.2 == v) with
  | some p => simp [Store.allocNext, hf]
  | none =>
    have hk : dictHas st.data (slot pre sup st.B st.data.length) = false :=
      inv.hasKey_slot_len hB hsup
    rw [inv.allocNext_fresh hB hsup hf, allocate_next.loop1, allocations_eq sup st hB]
    cases pre
    · simp [slot] at hk
      simp [inv.refresh_of_not_pre, inv.alloc_of_not_pre, inv.hpre, dictSet_free hk, allocsOf, slot]
    · have ha2 := allocations_eq sup (st.refresh sup) (by rw [inv.refresh_eq hB hsup]; exact hB)
      have hfree := inv.first_free hB hsup
      rw [inv.refresh_idem hB hsup, inv.refresh_eq hB hsup] at ha2
      rw [inv.refresh_eq hB hsup]
      simp only [allocsOf, inv.hpre, if_true, Option.map] at ha2 ⊢
      have hB0 : st.B ≠ 0 := by omega
      rw [ha2]
      simp [loop2_eq, dictHas_eq, hfree, dictSet_free hk, rng, hB0]

theorem dictHasV_eq (l : List (Val × Nat)) (v : Val) : dictHasV l v = (l.lookup v).isSome := by
  rw [Bool.eq_iff_iff, List.lookup_isSome_iff, dictHasV, List.any_eq_true]
  simp only [BEq.comm (a := v)]

theorem setRev_allocsOf (st : Store) (ns : Ns) (m : List (Val × Nat)) :
    allocsOf (st.setRev ns m) = allocsOf st := by cases ns <;> rfl

/-- `_add_to_store(value, store)` (no explicit index) as written = `Store.addTo` (C15, C05) for
    each of the three reverse maps -/
theorem bridge_add_to_store {B : Nat} {pre : Bool} {sup : Nat → Nat} {st : Store}
    (hB : 0 < B) (hsup : BlocksDisjoint sup B) (inv : Store.Inv B pre sup st)
    (ns : Ns) (v : Option Val) :
    add_to_store st.pre st.B (fun k => rng st.B (sup k)) v (st.rev ns) none st.data
        (allocsOf st) st.nblocks =
      match st.addTo sup ns v with
      | .error _ => .exc "ResultStoreException"
      | .ok (s2, r) => .ret (r, s2.rev ns, s2.data, allocsOf s2, s2.nblocks) := by
  cases v with
  | none => simp [add_to_store, Store.addTo]
  | some v =>
    cases hl : (st.rev ns).lookup v with
    | some i => simp [add_to_store, Store.addTo, hl, dictHasV_eq, dictGetV]
    | none =>
      obtain ⟨s2, i, h1, -, -, h4, -⟩ := inv.allocNext_spec hB hsup v
      have hd : dictHasV (st.rev ns) v = false := by rw [dictHasV_eq, hl]; rfl
      simp only [add_to_store, Store.addTo, hl, hd, bridge_allocate_next hB hsup inv, h1,
        bind, Except.bind, pure, Except.pure, dictSetV]
      simp [Store.setRev_rev, Store.setRev_data, setRev_allocsOf, Store.setRev_nblocks, h4]

/-- `ResultStoreParallel.preallocate` as written, read sequentially (one thread of control; the
    interleavings of several workers are the transition system of C06): the block is
    `range(ptr, ptr + size)` and the shared pointer advances by `size`.  This is what the three
    theorems above assume of the pre-allocator oracle (`fun k => rng B (sup k)`). -/
theorem bridge_preallocate (size ptr : Nat) :
    preallocate size ptr = .ret (rng size ptr, ptr + size) := by
  simp [preallocate, rng]

#print axioms bridge_allocations
#print axioms bridge_allocate_next
#print axioms bridge_add_to_store

end Sk.Gen
#print axioms Sk.Gen.bridge_preallocate
