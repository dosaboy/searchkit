/-
  SkModel.Theorems.C02Ids — the table of source ids of `SearchCatalog` (search.py):
  `get_source_id` never gives two different path strings the same id, never changes what an
  id handed out earlier means, and `source_id_to_path` of the id of a catalog entry is that
  entry's path - whatever was registered or looked up before or after.  Lookups of foreign
  paths extend the id table only: the files to search and their registrations are those of
  the plain catalog model (SkModel.Catalog.register).
-/
import SkModel.SourceIds
import SkModel.Proofs.Grouping

namespace Sk

/-- well-formed id table: ids pairwise distinct, paths pairwise distinct, every id below nextId -/
def IdTable.WF (t : IdTable) : Prop :=
  (t.map (·.1)).Nodup ∧ (t.map (·.2)).Nodup ∧ ∀ p ∈ t, p.1 < t.nextId

/-- invariant of every reachable catalog state: the id table is well-formed and every catalog
    entry's path has an id that maps back to it -/
def CatSt.Inv (c : CatSt) : Prop :=
  c.ids.WF ∧ ∀ p ∈ c.files, ∃ i, c.ids.idOf p = some i ∧ c.ids.pathOf i = some p

theorem IdTable.wf_nil : IdTable.WF [] :=
  ⟨List.nodup_nil, List.nodup_nil, fun _ h => by cases h⟩

namespace Ids
open Coll14

theorem lt_nextId (t : IdTable) (p : Nat × String) (h : p ∈ t) : p.1 < t.nextId := by
  cases t with
  | nil => cases h
  | cons a l =>
    refine Nat.lt_succ_of_le ?_
    rw [List.foldl_max]
    exact Nat.le_trans (List.le_max?_getD_of_mem (List.mem_map_of_mem h)) (Nat.le_max_right _ _)

theorem nextId_not_mem (t : IdTable) : t.nextId ∉ t.map (·.1) := by
  intro h
  obtain ⟨p, hp, hpe⟩ := List.mem_map.1 h
  have := lt_nextId t p hp
  omega

theorem pathOf_iff_mem (t : IdTable) (hn : (t.map (·.1)).Nodup) (i : Nat) (q : String) :
    t.pathOf i = some q ↔ (i, q) ∈ t :=
  ⟨mem_of_lookup, lookup_of_mem hn⟩

theorem pathOf_none (t : IdTable) (i : Nat) (h : i ∉ t.map (·.1)) : t.pathOf i = none :=
  (lookup_none_iff t i).2 h

theorem idOf_eq_lookup (t : IdTable) (p : String) :
    t.idOf p = (t.map fun q => (q.2, q.1)).lookup p := by
  induction t with
  | nil => rfl
  | cons a t ih =>
    rw [IdTable.idOf, List.find?_cons, List.map_cons, List.lookup_cons, ← ih, Bool.beq_comm]
    cases p == a.2 <;> rfl

theorem idOf_iff_mem (t : IdTable) (hn : (t.map (·.2)).Nodup) (p : String) (i : Nat) :
    t.idOf p = some i ↔ (i, p) ∈ t := by
  rw [idOf_eq_lookup]
  have hswap : (p, i) ∈ t.map (fun q => (q.2, q.1)) ↔ (i, p) ∈ t := by
    simp only [List.mem_map, Prod.mk.injEq]
    exact ⟨fun ⟨q, hq, h1, h2⟩ => by rw [← h1, ← h2]; exact hq, fun h => ⟨_, h, rfl, rfl⟩⟩
  exact ⟨fun h => hswap.1 (mem_of_lookup h),
    fun h => lookup_of_mem (by rwa [List.map_map]) (hswap.2 h)⟩

theorem idOf_none (t : IdTable) (p : String) (h : t.idOf p = none) : p ∉ t.map (·.2) := by
  rw [idOf_eq_lookup, lookup_none_iff, List.map_map] at h
  exact h

theorem idOf_iff_pathOf (t : IdTable) (h : t.WF) (p : String) (i : Nat) :
    t.idOf p = some i ↔ t.pathOf i = some p :=
  (idOf_iff_mem t h.2.1 p i).trans (pathOf_iff_mem t h.1 i p).symm

theorem pathOf_prefix {t t' : IdTable} (h : t <+: t') (i : Nat) (q : String)
    (hq : t.pathOf i = some q) : t'.pathOf i = some q :=
  h.lookup_eq_some hq

theorem idOf_prefix {t t' : IdTable} (h : t <+: t') (p : String) (i : Nat)
    (hp : t.idOf p = some i) : t'.idOf p = some i := by
  rw [idOf_eq_lookup] at hp ⊢
  exact (h.map _).lookup_eq_some hp

theorem get_some (t : IdTable) (path : String) (i : Nat) (h : t.idOf path = some i) :
    t.get path = (t, i) := by
  rw [IdTable.get, h]

theorem get_none (t : IdTable) (path : String) (h : t.idOf path = none) :
    t.get path = (t ++ [(t.nextId, path)], t.nextId) := by
  rw [IdTable.get, h]

theorem get_prefix (t : IdTable) (path : String) : t <+: (t.get path).1 := by
  cases h : t.idOf path with
  | some i => rw [get_some t path i h]; exact List.prefix_refl t
  | none => rw [get_none t path h]; exact List.prefix_append _ _

theorem idOf_get (t : IdTable) (path : String) :
    (t.get path).1.idOf path = some (t.get path).2 := by
  cases h : t.idOf path with
  | some i => rw [get_some t path i h]; exact h
  | none =>
    rw [get_none t path h]
    rw [idOf_eq_lookup] at h ⊢
    rw [List.map_append, List.lookup_append, h]
    simp

theorem wf_get (t : IdTable) (h : t.WF) (path : String) : (t.get path).1.WF := by
  cases hi : t.idOf path with
  | some i => rw [get_some t path i hi]; exact h
  | none =>
    rw [get_none t path hi]
    exact ⟨nodup_map_concat h.1 (nextId_not_mem t), nodup_map_concat h.2.1 (idOf_none t path hi),
      lt_nextId _⟩

theorem entries_registerPath (c : CatSt) (s : Nat) (p : String) :
    (c.registerPath s p).entries = Sk.registerPath c.entries s p := by
  unfold CatSt.registerPath
  split <;> rfl

theorem ids_registerPath_prefix (c : CatSt) (s : Nat) (p : String) :
    c.ids <+: (c.registerPath s p).ids := by
  unfold CatSt.registerPath
  split
  · exact List.prefix_refl _
  · exact get_prefix _ _

theorem ids_step_prefix (c : CatSt) (o : CatOp) : c.ids <+: (c.step o).ids := by
  cases o with
  | register s e =>
    exact List.foldlRecOn (motive := fun c' => c.ids <+: c'.ids) e _ (List.prefix_refl _)
      fun c' h p _ => h.trans (ids_registerPath_prefix c' s p)
  | lookup p => exact get_prefix _ _

theorem ids_run_prefix (ops : List CatOp) (c : CatSt) : c.ids <+: (c.run ops).ids :=
  List.foldlRecOn (motive := fun c' => c.ids <+: c'.ids) ops _ (List.prefix_refl _)
    fun c' h o _ => h.trans (ids_step_prefix c' o)

theorem inv_iff (c : CatSt) : c.Inv ↔ c.ids.WF ∧ ∀ p ∈ c.files, p ∈ c.ids.map (·.2) := by
  refine and_congr_right fun hwf => forall_congr' fun p => imp_congr_right fun _ => ?_
  constructor
  · rintro ⟨i, hi, _⟩
    exact List.mem_map.2 ⟨_, (idOf_iff_mem _ hwf.2.1 p i).1 hi, rfl⟩
  · intro hp
    obtain ⟨⟨i, q⟩, hq, rfl⟩ := List.mem_map.1 hp
    exact ⟨i, (idOf_iff_mem _ hwf.2.1 q i).2 hq, (pathOf_iff_mem _ hwf.1 i q).2 hq⟩

theorem inv_init : CatSt.Inv {} := ⟨IdTable.wf_nil, nofun⟩

theorem inv_lookup (c : CatSt) (h : c.Inv) (p : String) : (c.lookup p).1.Inv := by
  rw [inv_iff] at h ⊢
  exact ⟨wf_get _ h.1 _, fun q hq => ((get_prefix c.ids p).map _).subset (h.2 q hq)⟩

theorem inv_registerPath (c : CatSt) (h : c.Inv) (s : Nat) (p : String) :
    (c.registerPath s p).Inv := by
  rw [inv_iff] at h ⊢
  unfold CatSt.registerPath
  split
  · next hany =>
    refine ⟨h.1, fun q hq => h.2 q ?_⟩
    -- `registerPath es s p` unfolds to `gAdd es p s` (arguments swapped), which the elaborator sees
    -- through; `Cat.registerPath_eq` (CatalogLemmas) states it
    rcases (mem_keys_gAdd c.entries p q s).1 hq with hq | rfl
    · exact hq
    · exact (any_key_iff _ q).1 hany
  · refine ⟨wf_get _ h.1 p, fun q hq => ?_⟩
    rcases (mem_keys_gAdd c.entries p q s).1 hq with hq | rfl
    · exact ((get_prefix c.ids p).map _).subset (h.2 q hq)
    · exact List.mem_map.2 ⟨_, (idOf_iff_mem _ (wf_get _ h.1 q).2.1 q _).1 (idOf_get c.ids q), rfl⟩

theorem inv_step (c : CatSt) (h : c.Inv) (o : CatOp) : (c.step o).Inv := by
  cases o with
  | register s e =>
    exact List.foldlRecOn (motive := CatSt.Inv) e _ h fun c h p _ => inv_registerPath c h s p
  | lookup p => exact inv_lookup c h p

theorem inv_run (ops : List CatOp) (c : CatSt) (h : c.Inv) : (c.run ops).Inv :=
  List.foldlRecOn (motive := CatSt.Inv) ops _ h fun c h o _ => inv_step c h o

end Ids

open Ids

/-- `get` keeps the table well-formed, never changes what earlier ids mean, and returns an id
    that maps back to exactly the path asked for -/
theorem IdTable.get_spec (t : IdTable) (h : t.WF) (path : String) :
    let r := t.get path
    r.1.WF ∧ r.1.pathOf r.2 = some path ∧ (∀ i q, t.pathOf i = some q → r.1.pathOf i = some q) ∧
    (t.idOf path = some r.2 → r.1 = t) := by
  intro r
  have hwf : r.1.WF := wf_get t h path
  refine ⟨hwf, (idOf_iff_pathOf _ hwf path _).1 (idOf_get t path),
    fun i q hq => pathOf_prefix (get_prefix t path) i q hq, fun hi => ?_⟩
  show (t.get path).1 = t
  rw [get_some t path _ hi]

/-- two different path strings never share an id; the same string always gets the same id -/
theorem IdTable.get_injective (t : IdTable) (h : t.WF) (p q : String) :
    let r1 := t.get p
    let r2 := r1.1.get q
    (r1.2 = r2.2 ↔ p = q) := by
  intro r1 r2
  have h1 := IdTable.get_spec t h p
  have h2 := IdTable.get_spec r1.1 h1.1 q
  constructor
  · intro heq
    have hp : r2.1.pathOf r1.2 = some p := h2.2.2.1 _ _ h1.2.1
    have hq : r2.1.pathOf r2.2 = some q := h2.2.1
    rw [← heq, hp] at hq
    exact Option.some.inj hq
  · intro heq
    subst heq
    show r1.2 = (r1.1.get p).2
    rw [get_some r1.1 p r1.2 (idOf_get t p)]

theorem C02_ids_inv (ops : List CatOp) : (CatSt.run {} ops).Inv :=
  inv_run ops {} inv_init

/-- C02 / C14: a result produced by the task of catalog entry `p` carries `p`'s id and is filed
    under `source_id_to_path` of it, which is `p` itself - whatever else was registered or looked
    up before or after, and however many paths there are -/
theorem C02_filed_under_own_path (ops : List CatOp) (p : String) (hp : p ∈ (CatSt.run {} ops).files)
    (later : List CatOp) :
    ∃ i, (CatSt.run {} ops).ids.idOf p = some i ∧
      (CatSt.run (CatSt.run {} ops) later).ids.pathOf i = some p ∧
      (CatSt.run (CatSt.run {} ops) later).ids.idOf p = some i := by
  obtain ⟨i, h1, h2⟩ := (C02_ids_inv ops).2 p hp
  have hpre := ids_run_prefix later (CatSt.run {} ops)
  exact ⟨i, h1, pathOf_prefix hpre i p h2, idOf_prefix hpre p i h1⟩

/-- the entries are exactly those of the plain catalog model (SkModel.Catalog.register) -/
theorem C02_entries_are_catalog (c : CatSt) (s : Nat) (e : List String) :
    (c.register s e).entries = Sk.register c.entries s e :=
  (List.foldl_hom CatSt.entries fun c p => (entries_registerPath c s p).symm).symm

theorem Ids.entries_run_filter (ops : List CatOp) (c c' : CatSt) (h : c.entries = c'.entries) :
    (c.run ops).entries =
      (c'.run (ops.filter fun o => match o with | .lookup _ => false | _ => true)).entries := by
  induction ops generalizing c c' with
  | nil => exact h
  | cons o ops ih =>
    cases o with
    | register s e =>
      exact ih (c.register s e) (c'.register s e)
        (by rw [C02_entries_are_catalog, C02_entries_are_catalog, h])
    | lookup p => exact ih (c.lookup p).1 c' h

/-- C18: asking the catalog about arbitrary paths changes neither the files to search nor their
    registrations (only `register` does) -/
theorem C18_lookups_do_not_register (ops : List CatOp) :
    (CatSt.run {} ops).entries =
      (CatSt.run {} (ops.filter (fun o => match o with | .lookup _ => false | _ => true))).entries :=
  entries_run_filter ops {} {} rfl

namespace C02IdsEx

/-- two registrations through overlapping expansions, two foreign lookups in between -/
def history : List CatOp :=
  [ .register 7 ["d/a.log", "d/b.log"],
    .lookup "elsewhere/x",
    .lookup "elsewhere/y",
    .register 9 ["d/b.log", "d/c.log"] ]

def final : CatSt := CatSt.run {} history

example : final.files = ["d/a.log", "d/b.log", "d/c.log"] := by decide +kernel

example : final.entries = [("d/a.log", [7]), ("d/b.log", [7, 9]), ("d/c.log", [9])] := by decide +kernel

example : final.ids.idOf "d/a.log" = some 0 ∧ final.ids.idOf "d/b.log" = some 1 ∧
    final.ids.idOf "d/c.log" = some 4 := by decide +kernel

example : final.ids.pathOf 0 = some "d/a.log" ∧ final.ids.pathOf 1 = some "d/b.log" ∧
    final.ids.pathOf 4 = some "d/c.log" := by decide +kernel

/-- the foreign paths have ids (2 and 3) but are not files to search -/
example : final.ids.pathOf 2 = some "elsewhere/x" ∧ final.ids.pathOf 3 = some "elsewhere/y" ∧
    "elsewhere/x" ∉ final.files ∧ "elsewhere/y" ∉ final.files := by decide +kernel

/-- without the lookups: same entries, other ids -/
example : (CatSt.run {} [.register 7 ["d/a.log", "d/b.log"],
      .register 9 ["d/b.log", "d/c.log"]]).entries = final.entries ∧
    (CatSt.run {} [.register 7 ["d/a.log", "d/b.log"],
      .register 9 ["d/b.log", "d/c.log"]]).ids.idOf "d/c.log" = some 2 := by decide +kernel

example : final.Inv := C02_ids_inv history

end C02IdsEx

end Sk

#print axioms Sk.IdTable.wf_nil
#print axioms Sk.IdTable.get_spec
#print axioms Sk.IdTable.get_injective
#print axioms Sk.C02_ids_inv
#print axioms Sk.C02_filed_under_own_path
#print axioms Sk.C18_lookups_do_not_register
#print axioms Sk.C02_entries_are_catalog
