/-
  C19 — `MPCacheSimple` used by several processes on one path is linearizable: the log of
  completed operations, in order of completion (= order of critical sections), is a legal
  sequential history of one atomic register per key; per-process program order is respected;
  no operation is lost or duplicated; the system never deadlocks and every process takes a
  bounded number of steps.  `get` may retry a failed open of the shelf (label `retry p`) up
  to `maxOpenRetry` times while holding the lock: a retry changes nothing observable.
-/
import SkModel.Proofs.CacheInv

namespace Sk

open Cch

/-- the disk is literally the specification's register map between critical sections -/
theorem C19_linearizable_eq (progs : Nat → List COp) (s : CacheSt)
    (hr : ∃ ls, cacheRun (CacheSt.init progs) ls = some s) :
    ∃ d, specReplay [] s.log = some d ∧ (s.lock = none → s.disk = d) := by
  obtain ⟨d, h1, h2, _⟩ := (inv_reach progs s hr).lin
  exact ⟨d, h1, h2⟩

theorem C19_linearizable (progs : Nat → List COp) (s : CacheSt)
    (hr : ∃ ls, cacheRun (CacheSt.init progs) ls = some s) :
    ∃ d, specReplay [] s.log = some d ∧ (s.lock = none → ∀ k, s.disk.value k = d.value k) := by
  obtain ⟨d, h1, h2⟩ := C19_linearizable_eq progs s hr
  exact ⟨d, h1, fun hl k => by rw [h2 hl]⟩

/-- every logged operation returned what the atomic registers, after exactly the
    operations logged before it, return; in particular a `get` returned the register value -/
theorem C19_returns (progs : Nat → List COp) (s : CacheSt)
    (hr : ∃ ls, cacheRun (CacheSt.init progs) ls = some s)
    (pre post : List CDone) (e : CDone) (hlog : s.log = pre ++ e :: post) :
    ∃ d, specReplay [] pre = some d ∧ e.ret = (specApply d e.op).2 ∧
      ∀ k, e.op = .get k → e.ret = d.value k := by
  obtain ⟨d', h1, _⟩ := (inv_reach progs s hr).lin
  rw [hlog, specReplay_append] at h1
  obtain ⟨d, hpre, h1⟩ := Option.bind_eq_some_iff.1 h1
  obtain ⟨hret, -⟩ := Option.ite_none_right_eq_some.1 (specReplay_cons .. ▸ h1)
  exact ⟨d, hpre, hret.symm, fun k hk => by rw [← hret, hk]; rfl⟩

/-- the log only grows, by at most one entry per step, and an operation is appended
    exactly at its `release` (with the value its critical section read) -/
theorem C19_order_respected_step (s s' : CacheSt) (l : CacheLbl)
    (h : cacheStep s l = some s') :
    (∃ ext, s'.log = s.log ++ ext ∧ ext.length ≤ 1) ∧
    ((∃ p op, l = .release p ∧ s.lock = some p ∧ (s.procs p).cur = some op ∧
        s'.log = s.log ++ [{ proc := p, op := op, ret := (s.procs p).got }])
     ∨ ((∀ p, l ≠ .release p) ∧ s'.log = s.log)) := by
  cases step_iff.1 h with
  | release p op hl hp hc =>
    exact ⟨⟨[_], rfl, Nat.le_refl 1⟩, .inl ⟨p, op, rfl, hl, hc, rfl⟩⟩
  | _ => exact ⟨⟨[], (List.append_nil _).symm, Nat.zero_le 1⟩, .inr ⟨nofun, rfl⟩⟩

/-- mutual exclusion: at most one operation is inside a critical section, and it is the lock
    holder's.  (That the log is in the order of the critical sections is
    `C19_order_respected_step`; program order is `C19_per_process_order`.) -/
theorem C19_order_respected (progs : Nat → List COp) (s : CacheSt)
    (hr : ∃ ls, cacheRun (CacheSt.init progs) ls = some s) :
    (∀ p q, (s.procs p).cur.isSome → (s.procs q).cur.isSome → p = q) ∧
    (∀ p, (s.procs p).cur.isSome ↔ s.lock = some p) := by
  have hcl := (inv_reach progs s hr).curlock
  exact ⟨fun p q hp hq => Option.some.inj (((hcl p).1 hp).symm.trans ((hcl q).1 hq)), hcl⟩

/-- per-process program order; nothing lost, nothing duplicated -/
theorem C19_per_process_order (progs : Nat → List COp) (s : CacheSt)
    (hr : ∃ ls, cacheRun (CacheSt.init progs) ls = some s) (p : Nat) :
    (s.log.filter (·.proc == p)).map (·.op) ++ ((s.procs p).cur.toList) ++ (s.procs p).todo
      = progs p :=
  (inv_reach progs s hr).order p

/-- no deadlock: as long as some process has work left, some transition is enabled -/
theorem C19_nodeadlock (progs : Nat → List COp) (s : CacheSt)
    (hr : ∃ ls, cacheRun (CacheSt.init progs) ls = some s) (p : Nat)
    (h : (s.procs p).todo ≠ [] ∨ (s.procs p).cur.isSome) :
    ∃ l s', cacheStep s l = some s' :=
  progress progs s (inv_reach progs s hr) p h

/-- along any run process `p` takes at most
    `Σ_{op ∈ progs p} (Σ_{a ∈ accesses op} accCost a + 2)` steps, retries included, where a
    read costs `maxOpenRetry + 1` (up to `maxOpenRetry` failed opens, then the read) and
    any other access 1 -/
theorem C19_run_bounded (progs : Nat → List COp) (ls : List CacheLbl) (s : CacheSt)
    (h : cacheRun (CacheSt.init progs) ls = some s) (p : Nat) :
    (ls.filter (fun l => lblProc l == p)).length ≤ costR (progs p) :=
  -- `muR (CacheSt.init progs) p` unfolds to `costR (progs p) + 0 + 0`
  Nat.le_trans (Nat.le_add_right _ _) (LTS.run_count (step := cacheStep) (μ := (muR · p))
    (fun hst => muR_step (step_iff.1 hst) p) (cacheRun_eq_run _ _ ▸ h))

/-- the steps of `p` other than retries obey the bound of the retry-free system:
    `Σ_{op ∈ progs p} (|accesses op| + 2)` -/
theorem C19_run_bounded_noretry (progs : Nat → List COp) (ls : List CacheLbl) (s : CacheSt)
    (h : cacheRun (CacheSt.init progs) ls = some s) (p : Nat) :
    (ls.filter (fun l => lblProc l == p && !isRetry l)).length ≤ cost (progs p) :=
  Nat.le_trans (Nat.le_add_right _ _) (LTS.run_count (step := cacheStep) (μ := (mu · p))
    (fun hst => mu_step (step_iff.1 hst) p) (cacheRun_eq_run _ _ ▸ h))

/-- the two bounds on concrete operations: a `get` may take 13 steps instead of 3 -/
example : cost [.get 0] = 3 ∧ costR [.get 0] = maxOpenRetry + 3 ∧
    costR [.set 0 "a", .bulkSet [(0, "b"), (1, "c")], .unset 1] =
      cost [.set 0 "a", .bulkSet [(0, "b"), (1, "c")], .unset 1] := ⟨rfl, rfl, rfl⟩

/-- a failed open is retried only by the lock holder, inside its critical section, and
    changes neither the disk nor the lock nor the log -/
theorem C19_retry_holds_lock (s s' : CacheSt) (p : Nat)
    (h : cacheStep s (.retry p) = some s') :
    s.lock = some p ∧ s'.lock = some p ∧ s'.disk = s.disk ∧ s'.log = s.log := by
  cases step_iff.1 h with
  | retry p k rest hl hp ht => exact ⟨hl, hl, rfl, rfl⟩

/-- a retry happens in front of a read, at most `maxOpenRetry` times per critical
    section, and only counts the attempt -/
theorem C19_retry_step (s s' : CacheSt) (p : Nat)
    (h : cacheStep s (.retry p) = some s') :
    (∃ k rest, (s.procs p).pending = .read k :: rest) ∧
    (s.procs p).tries < maxOpenRetry ∧
    (s'.procs p).tries = (s.procs p).tries + 1 ∧
    (s'.procs p).pending = (s.procs p).pending ∧ (s'.procs p).cur = (s.procs p).cur ∧
    (s'.procs p).got = (s.procs p).got ∧ (s'.procs p).todo = (s.procs p).todo ∧
    ∀ q, q ≠ p → s'.procs q = s.procs q := by
  cases step_iff.1 h with
  | retry p k rest hl hp ht =>
    refine ⟨⟨k, rest, hp⟩, ht, ?_⟩
    simp only [stRetry, updP_same, true_and]
    exact fun q hq => updP_other _ _ hq

/-- from states equal up to the attempt counters, the run without its retries ends in a
    state equal up to the attempt counters -/
theorem C19_retry_invisible_from (s t s' : CacheSt) (ls : List CacheLbl) (he : EqvT s t)
    (h : cacheRun s ls = some s') :
    ∃ t', cacheRun t (ls.filter (fun l => match l with | .retry _ => false | _ => true))
        = some t' ∧ EqvT s' t' := by
  rw [cacheRun_eq_run] at h ⊢
  exact LTS.run_sim eqvT_step h he

/-- removing all retries from a run gives a run with the same final disk, lock and log -/
theorem C19_retry_invisible (progs : Nat → List COp) (ls : List CacheLbl) (s : CacheSt)
    (h : cacheRun (CacheSt.init progs) ls = some s) :
    ∃ s', cacheRun (CacheSt.init progs)
        (ls.filter (fun l => match l with | .retry _ => false | _ => true)) = some s' ∧
      s'.disk = s.disk ∧ s'.lock = s.lock ∧ s'.log = s.log := by
  obtain ⟨t', ht', he⟩ := C19_retry_invisible_from _ _ s ls (EqvT.refl _) h
  exact ⟨t', ht', he.disk.symm, he.lock.symm, he.log.symm⟩

def C19_demo_progs : Nat → List COp
  | 0 => [.set 0 "a", .bulkSet [(0, "b"), (1, "c")], .unset 1]
  | 1 => [.get 0, .get 1]
  | _ => []

def C19_obs (s : CacheSt) : Disk × Option Nat × List CDone := (s.disk, s.lock, s.log)

/-- process 1's `get 0` waits for process 0's `set 0 "a"` and returns "a"; `get 1` after
    `bulk_set` and `unset 1` returns nothing -/
example :
    (cacheRun (CacheSt.init C19_demo_progs)
      [.acquire 0, .access 0, .release 0,
       .acquire 1, .access 1, .release 1,
       .acquire 0, .access 0, .access 0, .release 0,
       .acquire 0, .access 0, .release 0,
       .acquire 1, .access 1, .release 1]).map C19_obs =
    some ([(1, none), (1, some "c"), (0, some "b"), (0, some "a")], none,
      [⟨0, .set 0 "a", none⟩, ⟨1, .get 0, some "a"⟩,
       ⟨0, .bulkSet [(0, "b"), (1, "c")], none⟩, ⟨0, .unset 1, none⟩,
       ⟨1, .get 1, none⟩]) := rfl

/-- a second acquire while the lock is held is refused; so is a release before the access -/
example :
    (cacheRun (CacheSt.init C19_demo_progs) [.acquire 0, .acquire 1]).map C19_obs = none ∧
    (cacheRun (CacheSt.init C19_demo_progs) [.acquire 0, .release 0]).map C19_obs = none :=
  ⟨rfl, rfl⟩

/-- retries of a reader while a writer is blocked -/
def C19_retry_progs : Nat → List COp
  | 0 => [.set 0 "a", .set 0 "b"]
  | 1 => [.get 0]
  | _ => []

/-- process 1's `get 0` fails to open the shelf twice and sleeps holding the lock; process
    0's `set 0 "b"` cannot get in (its `acquire` is refused after either retry), so the `get`
    returns "a", the value written before it, and `set 0 "b"` is logged after it -/
example :
    (cacheRun (CacheSt.init C19_retry_progs)
      [.acquire 0, .access 0, .release 0,
       .acquire 1, .retry 1, .retry 1, .access 1, .release 1,
       .acquire 0, .access 0, .release 0]).map C19_obs =
    some ([(0, some "b"), (0, some "a")], none,
      [⟨0, .set 0 "a", none⟩, ⟨1, .get 0, some "a"⟩, ⟨0, .set 0 "b", none⟩]) := rfl

/-- the writer blocked: after either retry process 0's `acquire` is refused; process 1 still
    holds the lock and nothing but `set 0 "a"` has completed -/
example :
    (cacheRun (CacheSt.init C19_retry_progs)
      [.acquire 0, .access 0, .release 0,
       .acquire 1, .retry 1, .acquire 0]).map C19_obs = none ∧
    (cacheRun (CacheSt.init C19_retry_progs)
      [.acquire 0, .access 0, .release 0,
       .acquire 1, .retry 1, .retry 1, .acquire 0]).map C19_obs = none ∧
    (cacheRun (CacheSt.init C19_retry_progs)
      [.acquire 0, .access 0, .release 0,
       .acquire 1, .retry 1, .retry 1]).map C19_obs =
    some ([(0, some "a")], some 1, [⟨0, .set 0 "a", none⟩]) := ⟨rfl, rfl, rfl⟩

/-- a retry needs the lock and a read in front of it: none outside a critical section, none
    in a `set`, none after the read; `maxOpenRetry = 10` retries are possible, an 11th is
    not: then only `access` is enabled (the open succeeds).  The `get` of utils.py that fails
    once more and raises has no step in the model. -/
example :
    (cacheRun (CacheSt.init C19_retry_progs) [.retry 1]).map C19_obs = none ∧
    (cacheRun (CacheSt.init C19_retry_progs) [.acquire 0, .retry 0]).map C19_obs = none ∧
    (cacheRun (CacheSt.init C19_retry_progs) [.acquire 1, .retry 0]).map C19_obs = none ∧
    (cacheRun (CacheSt.init C19_retry_progs)
      [.acquire 1, .access 1, .retry 1]).map C19_obs = none ∧
    ((cacheRun (CacheSt.init C19_retry_progs)
      (.acquire 1 :: List.replicate 10 (.retry 1) ++ [.access 1, .release 1])).map C19_obs =
      some ([], none, [⟨1, .get 0, none⟩])) ∧
    (cacheRun (CacheSt.init C19_retry_progs)
      (.acquire 1 :: List.replicate 11 (.retry 1))).map C19_obs = none :=
  ⟨rfl, rfl, rfl, rfl, rfl, rfl⟩

end Sk

#print axioms Sk.C19_linearizable
#print axioms Sk.C19_linearizable_eq
#print axioms Sk.C19_returns
#print axioms Sk.C19_order_respected_step
#print axioms Sk.C19_order_respected
#print axioms Sk.C19_per_process_order
#print axioms Sk.C19_nodeadlock
#print axioms Sk.C19_run_bounded
#print axioms Sk.C19_run_bounded_noretry
#print axioms Sk.C19_retry_holds_lock
#print axioms Sk.C19_retry_step
#print axioms Sk.C19_retry_invisible_from
#print axioms Sk.C19_retry_invisible
