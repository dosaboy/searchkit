/-
  SkModel.Theorems.C09 — registering a search against a directory or a glob searches exactly
  the regular files that path denotes, except that for each log only the `depth`
  lowest-numbered rotated copies are kept; the live `stem.log` and non-log files are always
  kept; sub-directories are ignored.  A file reached through several registrations has one
  entry with all searches registered for it.
-/
import SkModel.Proofs.CatalogLemmas

namespace Sk
open Cat

theorem C09_sort_perm (es : List DirEntry) : (sortByKey es).Perm es := sortByKey_perm es

theorem C09_sort_sorted (es : List DirEntry) :
    (sortByKey es).Pairwise (fun a b => a.key ≤ b.key) := sortByKey_sorted es

/-- stability: entries with equal keys keep their input order -/
theorem C09_sort_stable (es : List DirEntry) (k : Nat) :
    (sortByKey es).filter (fun x => x.key == k) = es.filter (fun x => x.key == k) :=
  (sortByKey_spec es).2.2 k

/-- kept prefix `K`, dropped suffix `D` -/
theorem C09_sort_cut (es : List DirEntry) (d : Nat) :
    let K := (sortByKey es).take d
    let D := (sortByKey es).drop d
    K.length = min d es.length ∧ (K ++ D).Perm es ∧ ∀ a ∈ K, ∀ b ∈ D, a.key ≤ b.key := by
  refine ⟨by rw [List.length_take, (sortByKey_perm es).length_eq], ?_, ?_⟩
  · rw [List.take_append_drop]; exact sortByKey_perm es
  · have h := sortByKey_sorted es
    rw [← List.take_append_drop d (sortByKey es)] at h
    exact (List.pairwise_append.1 h).2.2

/-- nothing invented, no sub-directory -/
theorem C09_only_files (l : List DirEntry) (hwf : WFList l) (depth : Nat) :
    ∀ p ∈ filteredDir l depth, ∃ e ∈ l, e.isFile = true ∧ e.path = p := by
  intro p hp
  rw [filteredDir_eq_map l hwf.2] at hp
  obtain ⟨e, he, hpe⟩ := List.mem_map.1 hp
  exact ⟨e, (mem_keptEntries.1 he).1, (mem_keptEntries.1 he).2.1, hpe⟩

/-- the live log and files that are not logs are always kept -/
theorem C09_plain_live_kept (l : List DirEntry) (hwf : WFList l) (depth : Nat) :
    ∀ e ∈ l, e.isFile = true → (e.cls = .plain ∨ ∃ s, e.cls = .live s) →
      e.path ∈ filteredDir l depth := by
  intro e he hf hc
  refine (path_mem_filteredDir hwf depth he).2 (mem_keptEntries.2 ⟨he, hf, fun s hs => ?_⟩)
  rcases hc with hc | ⟨st, hc⟩ <;> rw [hc] at hs <;> cases hs

/-- grouping lemma: the dict built by the fold of `filteredDir` has distinct stems, and the
    group of stem `s` is exactly the rotated file entries of stem `s`, in input order
    (a stem is present iff it has at least one rotated copy) -/
theorem C09_groups (l : List DirEntry) :
    ∃ stems : List String, stems.Nodup ∧
      (l.filter (·.isFile)).foldl (fun g e => match e.cls with
        | .rotated stem => groupAddE g stem e
        | _ => g) [] =
        stems.map (fun s => (s, l.filter (fun e => e.isFile && e.cls == .rotated s))) ∧
      ∀ s, s ∈ stems ↔ l.filter (fun e => e.isFile && e.cls == .rotated s) ≠ [] :=
  ⟨stems l, stems_nodup l, groupsOf_eq l, fun _ => mem_stems⟩

/-- exact form of the cap: the output restricted to the rotated copies of stem `s` is the
    group sorted by key and cut at `depth` -/
theorem C09_rotated_exact (l : List DirEntry) (hwf : WFList l) (depth : Nat) (s : String) :
    let R := l.filter (fun e => e.isFile && e.cls == .rotated s)
    (filteredDir l depth).filter (fun p => R.any (·.path == p)) =
      ((sortByKey R).take depth).map (·.path) :=
  filteredDir_filter_rot l hwf depth s

/-- tie-tolerant form of the cap: of the rotated copies `R` of stem `s`, exactly the entries
    of `K` are in the output; `K` has `min depth |R|` distinct members of `R`, and every kept
    copy has a key ≤ every copy that was left out -/
theorem C09_rotated_capped (l : List DirEntry) (hwf : WFList l) (depth : Nat) (s : String) :
    let out := filteredDir l depth
    let R := l.filter (fun e => e.isFile && e.cls == .rotated s)
    let K := (sortByKey R).take depth
    (∀ a ∈ K, a ∈ R) ∧ (K.map (·.path)).Nodup ∧ K.length = min depth R.length ∧
      (∀ e ∈ R, e.path ∈ out ↔ e ∈ K) ∧
      (∀ a ∈ K, ∀ b ∈ R, b.path ∉ out → a.key ≤ b.key) := by
  intro out R K
  have hcut := C09_sort_cut R depth
  have hiff : ∀ e ∈ R, e.path ∈ out ↔ e ∈ K := fun e he => by
    have hm := mem_rot.1 he
    rw [path_mem_filteredDir hwf depth hm.1, mem_keptEntries]
    exact ⟨fun h => h.2.2 s hm.2.2, fun h => ⟨hm.1, hm.2.1, fun s' hs' =>
      NameCls.rotated.inj (hm.2.2.symm.trans hs') ▸ h⟩⟩
  refine ⟨fun a ha => mem_sortByKey.1 (List.mem_of_mem_take ha), ?_, hcut.1, hiff, ?_⟩
  · exact ((List.take_sublist depth _).map _).nodup (((sortByKey_perm R).map _).nodup_iff.2
      ((List.filter_sublist.map _).nodup hwf.1))
  · intro a ha b hb hbo
    rcases List.mem_append.1 ((hcut.2.1.mem_iff).2 hb) with h | h
    · exact absurd ((hiff b hb).2 h) hbo
    · exact hcut.2.2 a ha b h

/-- each file is searched once -/
theorem C09_no_dup (l : List DirEntry) (hwf : WFList l) (depth : Nat) :
    (filteredDir l depth).Nodup := filteredDir_nodup l hwf depth

/-- depth 0: no rotated copy is kept -/
theorem C09_depth_zero (l : List DirEntry) (hwf : WFList l) :
    ∀ e ∈ l, ∀ s, e.cls = .rotated s → e.path ∉ filteredDir l 0 := by
  intro e he s hc ho
  have := (mem_keptEntries.1 ((path_mem_filteredDir hwf 0 he).1 ho)).2.2 s hc
  rw [List.take_zero] at this
  cases this

/-- depth ≥ number of entries: every file is kept -/
theorem C09_depth_large (l : List DirEntry) (hwf : WFList l) (depth : Nat)
    (hd : l.length ≤ depth) :
    (∀ e ∈ l, e.isFile = true → e.path ∈ filteredDir l depth) ∧
      (filteredDir l depth).Perm ((l.filter (·.isFile)).map (·.path)) := by
  have hall : ∀ e ∈ l, e.isFile = true → e.path ∈ filteredDir l depth := by
    intro e he hf
    refine (path_mem_filteredDir hwf depth he).2 (mem_keptEntries.2 ⟨he, hf, fun s hs => ?_⟩)
    rw [List.take_of_length_le]
    · exact mem_sortByKey.2 (mem_rot.2 ⟨he, hf, hs⟩)
    · rw [(sortByKey_perm _).length_eq]
      exact Nat.le_trans (List.length_filter_le _ _) hd
  refine ⟨hall, (List.perm_ext_iff_of_nodup (filteredDir_nodup l hwf depth)
    ((List.filter_sublist.map _).nodup hwf.1)).2 fun p => ⟨fun hp => ?_, fun hp => ?_⟩⟩
  · obtain ⟨e, he, hf, hpe⟩ := C09_only_files l hwf depth p hp
    exact List.mem_map.2 ⟨e, List.mem_filter.2 ⟨he, hf⟩, hpe⟩
  · obtain ⟨e, he, hpe⟩ := List.mem_map.1 hp
    exact hpe ▸ hall e (List.mem_filter.1 he).1 (List.mem_filter.1 he).2

theorem C09_expand_file (path : String) (d : Nat) : expandPath path .file d = [path] := rfl

theorem C09_expand_dir (path : String) (l : List DirEntry) (d : Nat) :
    expandPath path (.dir l) d = filteredDir l d := rfl

theorem C09_expand_other (path : String) (g : List DirEntry) (d : Nat) :
    expandPath path (.other g) d = filteredDir g d := rfl

theorem C09_merge_once (es : Entries) (search : Nat) (expanded : List String)
    (hes : (es.map (·.1)).Nodup) (hexp : expanded.Nodup) :
    let es' := register es search expanded
    (es'.map (·.1)).Nodup ∧
    (∀ p ∈ expanded, p ∈ es'.map (·.1)) ∧
    (∀ p, p ∈ es'.map (·.1) ↔ p ∈ es.map (·.1) ∨ p ∈ expanded) ∧
    (∀ p ∈ expanded, ∀ ss, es.lookup p = some ss → es'.lookup p = some (ss ++ [search])) ∧
    (∀ p ∈ expanded, es.lookup p = none → es'.lookup p = some [search]) ∧
    (∀ p, p ∉ expanded → es'.lookup p = es.lookup p) := by
  have hk := mem_keys_register expanded es search
  have hl : ∀ p ∈ expanded, (register es search expanded).lookup p =
      some ((es.lookup p).getD [] ++ [search]) := fun p hp => by
    rw [lookup_register, if_pos (Or.inr hp), hexp.count, if_pos hp]; rfl
  refine ⟨keys_register_nodup expanded es search hes, fun p hp => (hk p).2 (Or.inr hp), hk,
    fun p hp ss hss => ?_, fun p hp hnone => ?_, fun p hp => ?_⟩
  · rw [hl p hp, hss]; rfl
  · rw [hl p hp, hnone]; rfl
  · rw [lookup_register, hexp.count, if_neg hp, List.replicate_zero, List.append_nil, lookup_eq es]
    simp only [hp, or_false]

/-- after any sequence of registrations with duplicate-free expansions a path has one entry
    carrying all the searches registered for it, in registration order -/
theorem C09_entries_spec (regs : List (Nat × List String)) (hregs : ∀ r ∈ regs, r.2.Nodup)
    (p : String) :
    let es := regs.foldl (fun acc r => register acc r.1 r.2) []
    (es.map (·.1)).Nodup ∧
    es.lookup p =
      (let ss := regs.filterMap (fun r => if r.2.contains p then some r.1 else none)
       if ss = [] then none else some ss) := by
  refine ⟨keys_foldl_register_nodup _ _ regs [] List.nodup_nil, ?_⟩
  -- with duplicate-free expansions a registration contributes its search once or not at all
  have hss : getG (regs.foldl (fun acc r => register acc r.1 r.2) []) p =
      regs.filterMap (fun r => if r.2.contains p then some r.1 else none) := by
    rw [getG_foldl_register Prod.fst Prod.snd regs [] p]
    show [] ++ _ = _
    rw [List.nil_append]
    induction regs with
    | nil => rfl
    | cons r regs ih =>
      rw [List.flatMap_cons, List.filterMap_cons,
        ih fun r' hr' => hregs r' (List.mem_cons_of_mem _ hr'), (hregs r List.mem_cons_self).count]
      by_cases hp : p ∈ r.2
      · rw [if_pos hp, if_pos (List.contains_iff_mem.2 hp)]; rfl
      · rw [if_neg hp, if_neg (mt List.contains_iff_mem.1 hp)]; rfl
  have hk : p ∈ (regs.foldl (fun acc r => register acc r.1 r.2) []).map (·.1) ↔
      regs.filterMap (fun r => if r.2.contains p then some r.1 else none) ≠ [] := by
    rw [mem_keys_foldl_register Prod.fst Prod.snd, Ne, List.filterMap_eq_nil_iff]
    simp
  rw [lookup_eq, hss]
  split
  · next h => rw [if_neg (hk.1 h)]
  · next h => rw [if_pos (Classical.not_not.1 (mt hk.2 h))]

namespace C09ex

def listing : List DirEntry :=
  [ ⟨"a.log.10", true, .rotated "a", 10⟩,
    ⟨"a.log.1", true, .rotated "a", 1⟩,
    ⟨"sub", false, .plain, 100000⟩,
    ⟨"a.log", true, .live "a", 0⟩,
    ⟨"a.log.3", true, .rotated "a", 3⟩,
    ⟨"notes.txt", true, .plain, 100000⟩,
    ⟨"b.log.1", true, .rotated "b", 1⟩,
    ⟨"a.log.2", true, .rotated "a", 2⟩ ]

example : filteredDir listing 2 = ["a.log", "notes.txt", "a.log.1", "a.log.2", "b.log.1"] := by
  decide +kernel

example : filteredDir listing 0 = ["a.log", "notes.txt"] := by decide +kernel

example : filteredDir listing 8 =
    ["a.log", "notes.txt", "a.log.1", "a.log.2", "a.log.3", "a.log.10", "b.log.1"] := by decide +kernel

example : WFList listing := by
  refine ⟨by decide +kernel, ?_⟩
  intro e he s hc
  simp only [listing, List.mem_cons, List.not_mem_nil, or_false] at he
  rcases he with rfl | rfl | rfl | rfl | rfl | rfl | rfl | rfl <;> simp at hc
  subst hc; rfl

example : register (register [] 7 ["x", "y"]) 9 ["y", "z"] =
    [("x", [7]), ("y", [7, 9]), ("z", [9])] := by decide +kernel

end C09ex

end Sk

#print axioms Sk.C09_sort_perm
#print axioms Sk.C09_sort_sorted
#print axioms Sk.C09_sort_stable
#print axioms Sk.C09_sort_cut
#print axioms Sk.C09_only_files
#print axioms Sk.C09_plain_live_kept
#print axioms Sk.C09_groups
#print axioms Sk.C09_rotated_exact
#print axioms Sk.C09_rotated_capped
#print axioms Sk.C09_no_dup
#print axioms Sk.C09_depth_zero
#print axioms Sk.C09_depth_large
#print axioms Sk.C09_expand_file
#print axioms Sk.C09_expand_dir
#print axioms Sk.C09_expand_other
#print axioms Sk.C09_merge_once
#print axioms Sk.C09_entries_spec
