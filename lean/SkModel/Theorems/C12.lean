/-
  C12 — gzip-compressed files are searched exactly like their uncompressed content.

  The model of `execute` looks at what is on disk only to decide (a) zero-length → skip,
  (b) gzip or plain → how to obtain the content; everything else is a function of the
  content.  Hence for non-empty content the two are equal by construction, and for empty
  content the gzip archive (not zero-length on disk) is searched and yields exactly what
  the skipped plain file yields: no results, zero statistics - provided reading an empty
  content yields no lines, which is what `mkTask` of an empty content means.

  The weight of C12 is carried by the correspondence check (GzipFile's emulation of
  seek/tell/read is an assumption of this model; it is exactly what the check exercises).
-/
import SkModel.Gzip
import SkModel.Proofs.SeekShape

namespace Sk

/-- with no lines to read nothing is reported -/
theorem runTask_no_lines_nil (t : TaskIn) (h : t.n = 0) :
    runTask t = .ok ([], { lines := 0, results := 0 }) := by
  have key : ∀ (defs : List Def),
      eofAll 0 defs (defs.map DSt.init) = .ok (defs.map fun d => (d.id, [])) := by
    intro defs
    induction defs with
    | nil => rfl
    | cons d ds ih =>
      have : eofDef 0 d (DSt.init d) = .ok [] := by
        unfold eofDef DSt.init
        cases d.kind <;> rfl
      simp only [List.map_cons, eofAll, bind_ok, pure_ok]
      exact ⟨_, this, _, ih, rfl⟩
  simp only [runTask, h, List.range_zero, linesLoop, bind_ok, pure_ok]
  exact ⟨_, rfl, _, key _, rfl⟩

/-- the file-level seek never fails (for any `K`: `seek_no_assert` does not use its `0 < K.H`, so
    `hK` here and in what follows is not needed either) -/
theorem startPos_ok (cfg : FileCfg) (F : FileV)
    (hK : ∀ K ts since, cfg.seek = some (K, ts, since) → 0 < K.H) :
    ∃ p, startPos cfg F = .ok p := by
  unfold startPos
  split
  · exact ⟨0, rfl⟩
  · rename_i K ts since hs
    exact seek_no_assert K (hK K ts since hs) F ts since

/-- C12: for every content, every search configuration that reads no lines from an empty content
    (`hempty`) and every file-level constraint, the gzip-encoded file gives the same results and
    statistics as the plain file. -/
theorem C12_gzip_transparent (cfg : FileCfg) (F : FileV)
    (hK : ∀ K ts since, cfg.seek = some (K, ts, since) → 0 < K.H)
    (hempty : F.len = 0 → ∀ p, (cfg.mkTask F p).n = 0) :
    executeDisk cfg (.gz F) = executeDisk cfg (.plain F) := by
  by_cases h : F.len = 0
  · obtain ⟨p, hp⟩ := startPos_ok cfg F hK
    simp only [executeDisk, DiskFile.sizeZero, DiskFile.content, h, beq_self_eq_true, if_true,
      Bool.false_eq_true, if_false, hp]
    exact runTask_no_lines_nil _ (hempty h p)
  · have : (F.len == 0) = false := by simpa using h
    simp only [executeDisk, DiskFile.sizeZero, DiskFile.content, this, Bool.false_eq_true, if_false]

/-- and the run never fails because of the seek (only the task itself can raise) -/
theorem C12_outcome (cfg : FileCfg) (d : DiskFile)
    (hK : ∀ K ts since, cfg.seek = some (K, ts, since) → 0 < K.H) :
    d.sizeZero = true ∨ ∃ p, executeDisk cfg d = runTask (cfg.mkTask d.content p) := by
  by_cases hz : d.sizeZero = true
  · exact Or.inl hz
  · obtain ⟨p, hp⟩ := startPos_ok cfg d.content hK
    refine Or.inr ⟨p, ?_⟩
    simp only [executeDisk, hz, Bool.false_eq_true, if_false, hp]

example : executeDisk { seek := none, mkTask := fun _ _ => { n := 0, dec := fun _ => true, defs := [] },
                        nregs := 0 } (.gz { len := 0, isLF := fun _ => false })
          = .ok ([], { lines := 0, results := 0 }) := by rfl

end Sk

#print axioms Sk.C12_gzip_transparent
#print axioms Sk.C12_outcome
