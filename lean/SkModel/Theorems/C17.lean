/-
  C17 — the statistics of a run describe exactly that run: per-path results are the results
  of that file's task, `results`/`lines`/`searches` are the sums over the catalog, and the job
  counters equal the number of files.
-/
import SkModel.Proofs.RunnerLemmas

namespace Sk
open Sk.Run

/-- each path's results are exactly the results of that file's task — nothing from another
    file, nothing from an earlier run (`runAll` has no other input) -/
theorem C17_per_job (jobs : List FileJob) (paths : List (List Res)) (st : RunStats)
    (h : runAll jobs = .ok (paths, st)) :
    ∀ k (hk : k < jobs.length), ∃ rs stk, execute jobs[k] = .ok (rs, stk) ∧ paths[k]? = some rs ∧
      stk.results = rs.length ∧ stk.lines = (if jobs[k].empty then 0 else jobs[k].task.n) := by
  obtain ⟨outs, hex, rfl, rfl⟩ := runAll_ok h
  intro k hk
  have := congrArg (·[k]?) hex
  simp only [List.getElem?_map, List.getElem?_eq_getElem hk, Option.map_some] at this
  obtain ⟨o, ho, hok⟩ := Option.map_eq_some_iff.1 this.symm
  exact ⟨o.1, o.2, hok.symm, by simp [ho], execute_stats hok.symm⟩

theorem C17_stats_exact (jobs : List FileJob) (paths : List (List Res)) (st : RunStats)
    (h : runAll jobs = .ok (paths, st)) :
    st.results = (paths.map List.length).sum ∧
    paths.length = jobs.length ∧
    st.lines = (jobs.map fun j => if j.empty then 0 else j.task.n).sum ∧
    st.searches = (jobs.map (·.nregs)).sum ∧
    st.searchesByJob = jobs.map (·.nregs) ∧
    (2 ≤ jobs.length → st.jobsCompleted = jobs.length ∧ st.totalJobs = jobs.length) ∧
    (jobs.length = 1 → st.jobsCompleted = 1 ∧ st.totalJobs = 1) ∧
    (jobs = [] → st.jobsCompleted = 0 ∧ st.totalJobs = 0 ∧ st.results = 0 ∧ st.lines = 0) ∧
    (∀ k (hk : k < jobs.length), ∃ rs stk, execute jobs[k] = .ok (rs, stk) ∧
      paths[k]? = some rs) := by
  have hper := C17_per_job jobs paths st h
  obtain ⟨outs, hex, rfl, rfl⟩ := runAll_ok h
  refine ⟨?_, by simpa using (congrArg List.length hex).symm, ?_, rfl, rfl, fun _ => ⟨rfl, rfl⟩,
    fun h1 => ⟨h1, h1⟩, ?_, fun k hk => ?_⟩
  · rw [List.map_map]
    refine congrArg List.sum (List.map_congr_left fun o ho => ?_)
    obtain ⟨j, _, hj⟩ := List.mem_map.1 (hex ▸ List.mem_map_of_mem ho)
    exact (execute_stats hj).1
  · exact congrArg List.sum (map_eq_map_imp (fun _ _ hj => (execute_stats hj).2.symm) hex).symm
  · rintro rfl
    obtain rfl : outs = [] := by simpa using hex.symm
    exact ⟨rfl, rfl, rfl, rfl⟩
  · obtain ⟨rs, stk, h1, h2, _⟩ := hper k hk
    exact ⟨rs, stk, h1, h2⟩

/-- the job counters equal the number of catalog entries, whatever it is -/
theorem C17_jobs (jobs : List FileJob) (paths : List (List Res)) (st : RunStats)
    (h : runAll jobs = .ok (paths, st)) :
    st.jobsCompleted = jobs.length ∧ st.totalJobs = jobs.length ∧
      st.searchesByJob.length = jobs.length := by
  obtain ⟨outs, -, rfl, rfl⟩ := runAll_ok h
  exact ⟨rfl, rfl, List.length_map _⟩

/-- a zero-length file contributes no results and no lines; its searches still count
    (`C17_stats_exact`) -/
theorem C17_empty_file (j : FileJob) (he : j.empty = true) :
    execute j = .ok ([], { lines := 0, results := 0 }) := by
  simp [execute, he]

/-- if the run fails, its error is the error of one of its tasks -/
theorem C17_error (jobs : List FileJob) (e : Err) (h : runAll jobs = .error e) :
    e ∈ runErrors jobs := by
  simp only [runAll, bind_error] at h
  rcases h with hx | ⟨_, _, h⟩
  · exact mem_runErrors.2 (executeAll_error hx)
  · cases h

private def exDef : Def :=
  { id := 7, kind := .simple { pats := [fun i => if i = 1 then some ⟨"x", []⟩ else none] } }
private def exJobs : List FileJob :=
  [ { task := { n := 3, dec := fun _ => true, defs := [exDef] }, nregs := 1, empty := false },
    { task := { n := 5, dec := fun _ => true, defs := [exDef, exDef] }, nregs := 2, empty := true } ]

example : (runAll exJobs).toOption.map (·.2) =
    some { searches := 3, searchesByJob := [1, 2], lines := 3, results := 1,
           jobsCompleted := 2, totalJobs := 2 } := by decide
example : (runAll exJobs).toOption.map (·.1.map List.length) = some [1, 0] := by decide

end Sk

#print axioms Sk.C17_stats_exact
#print axioms Sk.C17_jobs
#print axioms Sk.C17_per_job
#print axioms Sk.C17_empty_file
#print axioms Sk.C17_error
