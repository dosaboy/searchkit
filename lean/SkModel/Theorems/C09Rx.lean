/-
  SkModel.Theorems.C09Rx — the hand-written model of the four regular expressions of the
  log-rotation code (SkModel.NameRx) does what the oracle of SkModel.Catalog assumes on
  well-formed names: `stem.log` is the live log (key 0), `stem.log.N` / `stem.log.N.gz` are
  rotated copies of the same stem with key N, names without ".log" are plain; and, end to end,
  a directory with one log keeps the live log and the `depth` lowest-numbered copies in
  numeric order.
-/
import SkModel.NameRx
import SkModel.Proofs.CatalogLemmas

namespace Sk

/-- a well-formed log stem: non-empty, no white space (`\S+`) -/
def WFStem (s : List Char) : Prop := s ≠ [] ∧ allNonSpace s = true

instance (s : List Char) : Decidable (WFStem s) := by unfold WFStem; infer_instance

/-- `stem.log` -/
def liveName (stem : List Char) : List Char := stem ++ dotLog
/-- `stem.log.N` -/
def rotName (stem : List Char) (n : Nat) : List Char := stem ++ dotLog ++ '.' :: Nat.toDigits 10 n
/-- `stem.log.N.gz` -/
def rotGzName (stem : List Char) (n : Nat) : List Char := rotName stem n ++ ['.', 'g', 'z']

end Sk

namespace Sk.Rx

theorem digit_nonSpace {c : Char} (h : isDigitCh c = true) : isSpaceCh c = false := by
  simp only [isDigitCh, Bool.and_eq_true, decide_eq_true_eq] at h
  have ne : ∀ d : Char, d.toNat < 48 → (c == d) = false := fun d hd =>
    beq_eq_false_iff_ne.2 fun e => by subst e; omega
  rw [isSpaceCh, ne ' ' (by decide), ne '\t' (by decide), ne '\n' (by decide),
    ne '\r' (by decide), ne '\x0b' (by decide), ne '\x0c' (by decide)]
  -- what is left are the tests on the code point
  simp only [Bool.false_or, Bool.or_eq_false_iff, Bool.and_eq_false_iff, decide_eq_false_iff_not,
    beq_eq_false_iff_ne]
  omega

theorem digit_ne {c x : Char} (h : isDigitCh c = true) (hx : isDigitCh x = false) : c ≠ x := by
  intro e; subst e; rw [h] at hx; cases hx

theorem isDigitCh_of_isDigit {c : Char} (h : c.isDigit = true) : isDigitCh c = true := by
  simp only [Char.isDigit, Bool.and_eq_true, decide_eq_true_eq] at h
  simp only [isDigitCh, Bool.and_eq_true, decide_eq_true_eq]
  have h1 : (48 : Nat) ≤ c.val.toNat := by simpa using (UInt32.le_iff_toNat_le.1 h.1)
  have h2 : c.val.toNat ≤ 57 := by simpa using (UInt32.le_iff_toNat_le.1 h.2)
  exact ⟨h1, h2⟩

theorem digits_isDigit (n : Nat) : ∀ c ∈ Nat.toDigits 10 n, isDigitCh c = true :=
  fun _ hc => isDigitCh_of_isDigit (Nat.isDigit_of_mem_toDigits (by decide) (by decide) hc)

theorem natOfDigits_toDigits (n : Nat) : natOfDigits (Nat.toDigits 10 n) = n :=
  Nat.ofDigitChars_ten_toDigits

theorem allNonSpace_append (a b : List Char) :
    allNonSpace (a ++ b) = (allNonSpace a && allNonSpace b) := by
  simp [allNonSpace]

theorem allNonSpace_of_digits {ds : List Char} (h : ∀ c ∈ ds, isDigitCh c = true) :
    allNonSpace ds = true := by
  unfold allNonSpace
  rw [List.all_eq_true]
  intro c hc
  simp [digit_nonSpace (h c hc)]

theorem nonSpaceRun_of_all {s : List Char} (h : allNonSpace s = true) : nonSpaceRun s = s := by
  have := List.takeWhile_append_of_pos (l₂ := []) (List.all_eq_true.1 h)
  rwa [List.append_nil, List.takeWhile_nil, List.append_nil] at this

theorem range_filter_reverse_head (p : Nat → Bool) (k : Nat) (hk : p k = true) :
    ∀ n, k < n → (∀ i, k < i → i < n → p i = false) →
      ∃ rest, ((List.range n).filter p).reverse = k :: rest := by
  intro n
  induction n with
  | zero => intro h; omega
  | succ n ih =>
    intro hkn hgt
    rw [List.range_succ, List.filter_append, List.reverse_append]
    by_cases hkn' : k = n
    · subst hkn'
      exact ⟨((List.range k).filter p).reverse, by simp [hk]⟩
    · have hpn : p n = false := hgt n (by omega) (by omega)
      obtain ⟨rest, hr⟩ := ih (by omega) (fun i h1 h2 => hgt i h1 (by omega))
      exact ⟨rest, by simp [hpn, hr]⟩

theorem endsWith_append_self (suf a : List Char) : endsWith suf (a ++ suf) = true := by
  unfold endsWith
  rw [List.reverse_append, List.isPrefixOf_iff_prefix]
  exact List.prefix_append _ _

theorem endsWith_dotLog_false (s : List Char) (c : Char) (hc : c ≠ 'g') :
    endsWith dotLog (s ++ [c]) = false := by
  unfold endsWith dotLog
  have : ('g' == c) = false := by simpa using fun h : 'g' = c => hc h.symm
  simp [List.isPrefixOf, this]

theorem stripFinalNL_concat (s : List Char) (c : Char) (hc : c ≠ '\n') :
    stripFinalNL (s ++ [c]) = s ++ [c] := by
  unfold stripFinalNL
  split
  · rename_i r heq
    simp at heq
    exact absurd heq.1 hc
  · rfl

-- `'l' ∉ t` is the cheap way to say that no ".log" starts inside the tail `t` (`.N`, `.N.gz`)
theorem no_dotLog_of_no_l {t : List Char} (h : 'l' ∉ t) (j : Nat) :
    dotLog.isPrefixOf (t.drop j) = false := by
  cases hp : dotLog.isPrefixOf (t.drop j) with
  | false => rfl
  | true =>
    rw [List.isPrefixOf_iff_prefix] at hp
    have : 'l' ∈ t.drop j := hp.subset (by simp [dotLog])
    exact absurd (List.mem_of_mem_drop this) h

theorem no_dotLog_after {t : List Char} (hl : 'l' ∉ t) (j : Nat) (hj : 1 ≤ j) :
    dotLog.isPrefixOf ((dotLog ++ t).drop j) = false := by
  match j, hj with
  | 1, _ => simp [dotLog, List.isPrefixOf]
  | 2, _ => simp [dotLog, List.isPrefixOf]
  | 3, _ => simp [dotLog, List.isPrefixOf]
  | j + 4, _ => exact no_dotLog_of_no_l hl j

theorem dotLogPositions_head (stem t : List Char) (hs : stem ≠ []) (hl : 'l' ∉ t) :
    ∃ rest, dotLogPositions (stem ++ dotLog ++ t) = stem.length :: rest := by
  have hlen : 1 ≤ stem.length := List.length_pos_iff.2 hs
  unfold dotLogPositions
  apply range_filter_reverse_head
  · have : (stem ++ dotLog ++ t).drop stem.length = dotLog ++ t := by
      rw [List.append_assoc, List.drop_left' rfl]
    rw [this]
    simp [startsWith, List.isPrefixOf_iff_prefix, hlen]
  · simp [dotLog]
  · intro i h1 _
    have : (stem ++ dotLog ++ t).drop i = (dotLog ++ t).drop (i - stem.length) := by
      rw [List.append_assoc, List.drop_append, List.drop_eq_nil_of_le (by omega), List.nil_append]
    rw [this]
    simp [startsWith, no_dotLog_after hl (i - stem.length) (by omega)]

theorem rxStemLog_eq (stem t : List Char) (h : WFStem stem) (ht : allNonSpace t = true)
    (hl : 'l' ∉ t) : rxStemLog (stem ++ dotLog ++ t) = some stem := by
  have hall : allNonSpace (stem ++ dotLog ++ t) = true := by
    rw [allNonSpace_append, allNonSpace_append, h.2, ht]; decide
  obtain ⟨rest, hr⟩ := dotLogPositions_head stem t h.1 hl
  unfold rxStemLog
  simp only [nonSpaceRun_of_all hall, hr]
  rw [List.append_assoc, List.take_left' rfl]

theorem classify_eq (stem t : List Char) (h : WFStem stem) (ht : allNonSpace t = true)
    (hl : 'l' ∉ t) :
    classifyName (String.ofList (stem ++ dotLog ++ t)) =
      if endsWith dotLog (stem ++ dotLog ++ t) then .live (String.ofList stem)
      else .rotated (String.ofList stem) := by
  unfold classifyName
  simp only [String.toList_ofList, rxStemLog_eq stem t h ht hl]

theorem splitTrailingDigits_eq (p ds : List Char) (hd : ∀ c ∈ ds, isDigitCh c = true) :
    splitTrailingDigits (p ++ '.' :: ds) = (p ++ ['.'], ds) := by
  unfold splitTrailingDigits
  have hrev : (p ++ '.' :: ds).reverse = ds.reverse ++ '.' :: p.reverse := by simp
  have htw : (ds.reverse ++ '.' :: p.reverse).takeWhile isDigitCh = ds.reverse := by
    rw [List.takeWhile_append_of_pos fun c hc => hd c (List.mem_reverse.1 hc),
      List.takeWhile_cons_of_neg (by decide), List.append_nil]
  simp only [hrev, htw, List.drop_left' rfl]
  simp

theorem rxLogN_eq (stem ds : List Char) (h : WFStem stem) (hne : ds ≠ [])
    (hd : ∀ c ∈ ds, isDigitCh c = true) :
    rxLogN (stem ++ dotLog ++ '.' :: ds) = some (natOfDigits ds) := by
  have hall : allNonSpace (stem ++ dotLog ++ '.' :: ds) = true := by
    rw [allNonSpace_append, allNonSpace_append, h.2,
      show '.' :: ds = ['.'] ++ ds from rfl, allNonSpace_append, allNonSpace_of_digits hd]
    decide
  have hends : endsWith (dotLog ++ ['.']) (stem ++ dotLog ++ ['.']) = true := by
    rw [List.append_assoc]; exact endsWith_append_self _ _
  have hemp : ds.isEmpty = false := by cases ds with | nil => exact absurd rfl hne | cons => rfl
  unfold rxLogN
  rw [splitTrailingDigits_eq _ ds hd]
  simp only [hall, hends, hemp]
  simp [dotLog, h.1]

theorem rxLogN_none_of_last (s : List Char) (c : Char) (hc : isDigitCh c = false) :
    rxLogN (s ++ [c]) = none := by
  unfold rxLogN splitTrailingDigits
  simp [hc]

-- `hs` admits the suffixes of `rotName` and `rotGzName` only.  `stem.log.N.g`, which `\.gz?$` matches
-- too (`tryStrip ['.', 'g']` in `logrotateKey`), ends in `g`, which the argument excludes (`hg`): it
-- has the `decide` example at the end of the file and no theorem.
theorem rotated_facts (stem ds suf : List Char) (h : WFStem stem) (hne : ds ≠ [])
    (hd : ∀ c ∈ ds, isDigitCh c = true) (hs : suf = [] ∨ suf = ['.', 'g', 'z']) :
    classifyName (String.ofList (stem ++ dotLog ++ '.' :: ds ++ suf)) =
      .rotated (String.ofList stem) ∧
    logrotateKey (stem ++ dotLog ++ '.' :: ds ++ suf) = natOfDigits ds := by
  -- the name ends in a digit or in `z`: it is not live, and `$` has no newline to skip
  obtain ⟨pre, c, hshape, hg, hnl, hz⟩ : ∃ pre c, stem ++ dotLog ++ '.' :: ds ++ suf = pre ++ [c] ∧
      c ≠ 'g' ∧ c ≠ '\n' ∧ (suf ≠ [] → isDigitCh c = false) := by
    rcases hs with rfl | rfl
    · have hdd := hd _ (List.getLast_mem hne)
      exact ⟨stem ++ dotLog ++ '.' :: ds.dropLast, ds.getLast hne,
        by simp [List.dropLast_concat_getLast], digit_ne hdd (by decide), digit_ne hdd (by decide),
        fun h => absurd rfl h⟩
    · exact ⟨stem ++ dotLog ++ '.' :: ds ++ ['.', 'g'], 'z', by simp, by decide, by decide,
        fun _ => by decide⟩
  have hends : endsWith dotLog (stem ++ dotLog ++ '.' :: ds ++ suf) = false :=
    hshape ▸ endsWith_dotLog_false pre c hg
  have hstrip : stripFinalNL (stem ++ dotLog ++ '.' :: ds ++ suf) =
      stem ++ dotLog ++ '.' :: ds ++ suf := by
    rw [hshape]; exact stripFinalNL_concat pre c hnl
  have ht : allNonSpace ('.' :: ds ++ suf) = true := by
    rw [allNonSpace_append, ← List.singleton_append, allNonSpace_append,
      allNonSpace_of_digits hd]
    rcases hs with rfl | rfl <;> decide
  have hl : 'l' ∉ '.' :: ds ++ suf := by
    intro hm
    rcases List.mem_append.1 hm with h1 | h1
    · exact (List.mem_cons.1 h1).elim (by decide) fun h2 => absurd (hd _ h2) (by decide)
    · rcases hs with rfl | rfl <;> revert h1 <;> decide
  constructor
  · rw [List.append_assoc, classify_eq stem _ h ht hl, ← List.append_assoc, hends]; rfl
  · have hN := rxLogN_eq stem ds h hne hd
    unfold logrotateKey
    rcases hs with rfl | rfl
    · simp only [List.append_nil] at hstrip hends ⊢
      simp only [hstrip, hends, hN]
      simp
    · have hnone : rxLogN (stem ++ dotLog ++ '.' :: ds ++ ['.', 'g', 'z']) = none := by
        rw [hshape]; exact rxLogN_none_of_last _ _ (hz (by simp))
      have htake : (stem ++ dotLog ++ '.' :: ds ++ ['.', 'g', 'z']).take
          ((stem ++ dotLog ++ '.' :: ds ++ ['.', 'g', 'z']).length - ['.', 'g', 'z'].length) =
          stem ++ dotLog ++ '.' :: ds :=
        List.take_left' (by simp; omega)
      simp only [hstrip, hends, hnone, endsWith_append_self, htake, hN]
      simp

end Sk.Rx

namespace Sk
open Sk.Rx

/- The fields of `mkDirEntry` as rewrite rules.  Left to the unifier, `(mkDirEntry p b).cls = c`
   against a fact about `classifyName p` unfolds the regular expressions on the open name `p`
   (so does a proof of these two by `rfl`). -/
theorem mkDirEntry_cls (p : String) (b : Bool) : (mkDirEntry p b).cls = classifyName p := by
  rw [mkDirEntry]

theorem mkDirEntry_key (p : String) (b : Bool) :
    (mkDirEntry p b).key = logrotateKey p.toList := by
  rw [mkDirEntry]

/-- the live log: classified as live with its stem (the greedy `(\S+)` takes the LAST ".log",
    so a stem may itself contain ".log"), sort key 0 -/
theorem C09_rx_live (stem : List Char) (h : WFStem stem) :
    classifyName (String.ofList (liveName stem)) = .live (String.ofList stem) ∧
    logrotateKey (liveName stem) = 0 := by
  have hlen : 1 ≤ stem.length := List.length_pos_iff.2 h.1
  have hends : endsWith dotLog (stem ++ dotLog) = true := endsWith_append_self _ _
  constructor
  · have := classify_eq stem [] h rfl (by simp)
    simp only [List.append_nil] at this
    rw [liveName, this, hends]; rfl
  · have hstrip : stripFinalNL (stem ++ dotLog) = stem ++ dotLog := by
      have := stripFinalNL_concat (stem ++ ['.', 'l', 'o']) 'g' (by decide)
      simpa [dotLog] using this
    have hall : allNonSpace (stem ++ dotLog) = true := by
      rw [allNonSpace_append, h.2]; decide
    unfold logrotateKey liveName
    simp only [hstrip, hall, hends]
    rw [if_pos]
    simp [dotLog]; omega

/-- rotated copy N: classified as rotated with the same stem, sort key N (for EVERY N, also
    beyond the 100000 that unmatched names get) -/
theorem C09_rx_rotated (stem : List Char) (h : WFStem stem) (n : Nat) :
    classifyName (String.ofList (rotName stem n)) = .rotated (String.ofList stem) ∧
    logrotateKey (rotName stem n) = n := by
  have := rotated_facts stem _ [] h Nat.toDigits_ne_nil (digits_isDigit n) (.inl rfl)
  rwa [List.append_nil, natOfDigits_toDigits] at this

theorem C09_rx_rotated_gz (stem : List Char) (h : WFStem stem) (n : Nat) :
    classifyName (String.ofList (rotGzName stem n)) = .rotated (String.ofList stem) ∧
    logrotateKey (rotGzName stem n) = n := by
  have := rotated_facts stem _ _ h Nat.toDigits_ne_nil (digits_isDigit n) (.inr rfl)
  rwa [natOfDigits_toDigits] at this

/-- a name whose leading non-space run contains no ".log" after its first character is not a log -/
theorem C09_rx_plain (s : List Char)
    (h : ∀ i, 1 ≤ i → dotLog.isPrefixOf ((nonSpaceRun s).drop i) = false) :
    classifyName (String.ofList s) = .plain := by
  have hpos : dotLogPositions (nonSpaceRun s) = [] := by
    rw [dotLogPositions, List.reverse_eq_nil_iff, List.filter_eq_nil_iff]
    intro i _
    by_cases hi : 1 ≤ i
    · simp [startsWith, h i hi]
    · simp [hi]
  unfold classifyName rxStemLog
  simp only [String.toList_ofList, hpos]

/-- hence the numeric order of rotation numbers is the sort order -/
theorem C09_rx_key_mono (stem : List Char) (h : WFStem stem) (n m : Nat) :
    n < m ↔ logrotateKey (rotName stem n) < logrotateKey (rotName stem m) := by
  rw [(C09_rx_rotated stem h n).2, (C09_rx_rotated stem h m).2]

/-- END-TO-END for one log: a directory holding the live log (listed first) and rotated copies
    with numbers `ns` (in ANY listing order, plain or .gz per `gz n`): what is kept is the live
    log followed by the `depth` lowest-numbered copies in ascending numeric order (numeric, not
    lexicographic: 2 before 10).  `hnd` (distinct numbers) is stated; the proof does not use it. -/
theorem C09_rx_dir_one_log (stem : List Char) (h : WFStem stem) (ns : List Nat) (hnd : ns.Nodup)
    (gz : Nat → Bool) (depth : Nat) :
    let nm := fun n => String.ofList (if gz n then rotGzName stem n else rotName stem n)
    filteredDir (mkDirEntry (String.ofList (liveName stem)) true :: ns.map fun n => mkDirEntry (nm n) true) depth
      = String.ofList (liveName stem) :: ((ns.mergeSort (fun a b => decide (a ≤ b))).take depth).map nm := by
  intro nm
  -- `hnd` is not needed: equal numbers give equal entries
  have _ := hnd
  have hrot : ∀ n, classifyName (nm n) = .rotated (String.ofList stem) ∧
      logrotateKey (nm n).toList = n := by
    intro n
    simp only [nm, String.toList_ofList]
    cases gz n
    · exact C09_rx_rotated stem h n
    · exact C09_rx_rotated_gz stem h n
  rw [Cat.filteredDir_one_log (String.ofList stem) _ (fun n => mkDirEntry (nm n) true) ns depth rfl
    ((mkDirEntry_cls _ _).trans (C09_rx_live stem h).1) (fun _ => rfl)
    (fun n => (mkDirEntry_cls _ _).trans (hrot n).1) (fun n => (mkDirEntry_key _ _).trans (hrot n).2),
    liveName, String.ofList_append]
  rfl

example : WFStem "sys.log.old".toList := by decide +kernel
example : WFStem "a".toList := by decide +kernel
example : ¬ WFStem "a b".toList := by decide +kernel
example : liveName "a".toList = "a.log".toList := by decide +kernel
example : rotName "a".toList 10 = "a.log.10".toList := by decide +kernel
example : rotGzName "sys.log.old".toList 123 = "sys.log.old.log.123.gz".toList := by decide +kernel
example : logrotateKey "a.log".toList = 0 := by decide +kernel
example : logrotateKey "a.log.10".toList = 10 := by decide +kernel
example : logrotateKey "a.log.10.gz".toList = 10 := by decide +kernel
example : logrotateKey "a.log.10.g".toList = 10 := by decide +kernel
example : logrotateKey "a.log.200000".toList = 200000 := by decide +kernel
example : logrotateKey "a.log.bak".toList = 100000 := by decide +kernel
example : logrotateKey "notes.txt".toList = 100000 := by decide +kernel
example : classifyName "sys.log.old.log.3" = .rotated "sys.log.old" := by decide +kernel
example : classifyName "sys.log.old.log" = .live "sys.log.old" := by decide +kernel
example : classifyName "notes.txt" = .plain := by decide +kernel
example : classifyName ".log" = .plain := by decide +kernel
/-- the hypothesis of `C09_rx_plain` holds for a concrete plain name -/
example : ∀ i, 1 ≤ i → dotLog.isPrefixOf ((nonSpaceRun "notes.txt".toList).drop i) = false := by
  intro i _
  exact Sk.Rx.no_dotLog_of_no_l (by decide +kernel) i
/-- a concrete instance of the end-to-end statement: 2 before 10, `.gz` mixed in -/
example :
    filteredDir
      [mkDirEntry "a.log" true, mkDirEntry "a.log.10" true, mkDirEntry "a.log.2.gz" true,
        mkDirEntry "a.log.1" true, mkDirEntry "a.log.3" true] 3
      = ["a.log", "a.log.1", "a.log.2.gz", "a.log.3"] := by decide +kernel

end Sk

#print axioms Sk.C09_rx_live
#print axioms Sk.C09_rx_rotated
#print axioms Sk.C09_rx_rotated_gz
#print axioms Sk.C09_rx_plain
#print axioms Sk.C09_rx_key_mono
#print axioms Sk.C09_rx_dir_one_log
