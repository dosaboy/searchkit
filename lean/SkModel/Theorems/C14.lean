/-
  SkModel.Theorems.C14 — the retrieval methods of `SearchResultsCollection` are
  consistent views of one multiset of results.
-/
import SkModel.Proofs.CollLemmas

namespace Sk
open Coll14

/-- invariant of reachable collections: distinct paths, every result filed under its own
source, no empty entry -/
theorem C14_reach_inv (c : Coll) (hc : c.Reach) :
    (c.files).Nodup ∧ (∀ p ∈ c.items, ∀ r ∈ p.2, r.src = p.1) ∧ (∀ p ∈ c.items, p.2 ≠ []) :=
  let ⟨_, h⟩ := groups_of_reach c hc
  ⟨h.nodup, h.keyed, h.nonempty⟩

theorem C14_reach_add (c : Coll) (hc : c.Reach) (rs : List CRes) : (c.add rs).Reach :=
  reach_add c hc rs

theorem C14_reach_nil : Coll.Reach [] := ⟨[], rfl⟩

/-- 1. `add` keeps every result exactly once; per path the order of arrival is kept -/
theorem C14_add_multiset (batches : List (List CRes)) :
    ((batches.foldl Coll.add []).all).Perm batches.flatten ∧
    ∀ p, (batches.foldl Coll.add []).findByPath p
      = batches.flatten.filter (fun r => r.src == p) := by
  rw [foldl_add_eq]
  exact ⟨(groups_gFold _ _).perm, (groups_gFold _ _).lookup⟩

/-- 2. `len` is the number of results -/
theorem C14_len (c : Coll) (hc : c.Reach) :
    c.len = c.all.length ∧ c.len = (c.items.map (·.2.length)).sum := by
  have h2 : c.len = (c.items.map (·.2.length)).sum :=
    congrArg List.sum (files_map c (C14_reach_inv c hc).1 List.length)
  exact ⟨h2.trans List.length_flatMap.symm, h2⟩

/-- 3. `all` and `items()` enumerate the same results; `items()` agrees with `find_by_path` -/
theorem C14_all_items (c : Coll) :
    c.all = c.items.flatMap (·.2) ∧
    ∀ p ∈ c.files, c.items.lookup p = some (c.findByPath p) :=
  ⟨rfl, lookup_of_mem_files c⟩

/-- in a reachable collection every `items()` entry is what `find_by_path` returns -/
theorem C14_items_findByPath (c : Coll) (hc : c.Reach) :
    ∀ e ∈ c.items, c.findByPath e.1 = e.2 :=
  findByPath_of_mem c (C14_reach_inv c hc).1

theorem C14_unknown_path (c : Coll) (p : Nat) (h : p ∉ c.files) : c.findByPath p = [] :=
  findByPath_unknown c p h

/-- 4. lookups by tag return exactly the results carrying the tag -/
theorem C14_find_by_tag (c : Coll) (hc : c.Reach) (tag : String) :
    c.findByTag tag none = c.all.filter (fun r => r.tag == some tag) ∧
    ∀ p, c.findByTag tag (some p) = (c.findByPath p).filter (fun r => r.tag == some tag) :=
  ⟨flatMap_files_filter c (C14_reach_inv c hc).1 _, fun _ => List.flatMap_singleton _ _⟩

theorem C14_find_by_tag_unknown (c : Coll) (tag : String) (p : Nat) (h : p ∉ c.files) :
    c.findByTag tag (some p) = [] := by
  simp [Coll.findByTag, findByPath_unknown c p h]

/-- the sequence results are the results owned by a sequence definition -/
theorem C14_allSeq (c : Coll) (hc : c.Reach) :
    c.allSeq none = c.all.filter (fun r => r.seqId.isSome) ∧
    ∀ p, c.allSeq (some p) = (c.findByPath p).filter (fun r => r.seqId.isSome) :=
  ⟨flatMap_files_filter c (C14_reach_inv c hc).1 _, fun _ => List.flatMap_singleton _ _⟩

/-- 5. `find_sequence_sections` partitions the matching sequence results into sections -/
theorem C14_sections_partition (c : Coll) (id : Nat) (path : Option Nat) :
    let S := c.findSeqSections id path
    let R := (c.allSeq path).filter (fun r => r.seqId == some id)
    (S.map (·.1)).Nodup ∧
    (S.flatMap (·.2)).Perm R ∧
    (∀ k rs, (k, rs) ∈ S → rs = R.filter (fun r => r.sec == k) ∧ rs ≠ []) ∧
    (∀ k rs, (k, rs) ∈ S → ∀ r ∈ rs, r.seqId = some id ∧ r.sec = k ∧ r ∈ c.all) := by
  have h := groups_sections c id path
  exact ⟨h.nodup, h.perm, fun k rs hm => ⟨h.entry hm, h.nonempty _ hm⟩, mem_sec_entry c id path⟩

/-- 6. `find_sequence_by_tag` partitions the results of all definitions of the tag, if a section id
    determines file and definition (`hsec`, assumed: section ids are `uuid4()`, searchdef.py) -/
theorem C14_by_tag_partition (c : Coll) (ids : List Nat) (path : Option Nat)
    (hsec : ∀ r1 ∈ c.all, ∀ r2 ∈ c.all, r1.seqId.isSome → r2.seqId.isSome →
      r1.sec = r2.sec → r1.src = r2.src ∧ r1.seqId = r2.seqId)
    (hids : ids.Nodup) :
    let T := c.findSeqByTag ids path
    (T.map (·.1)).Nodup ∧
    (T.flatMap (·.2)).Perm
      ((c.allSeq path).filter (fun r => ids.any (fun id => r.seqId == some id))) ∧
    (∀ k rs, (k, rs) ∈ T →
      (∀ r1 ∈ rs, ∀ r2 ∈ rs, r1.src = r2.src ∧ r1.seqId = r2.seqId) ∧ rs ≠ []) ∧
    T = ids.flatMap (fun id => c.findSeqSections id path) := by
  intro T
  have hT : T = ids.flatMap (fun id => c.findSeqSections id path) :=
    findSeqByTag_concat c ids path hsec hids
  refine ⟨?_, ?_, ?_, hT⟩
  · rw [show T = _ from findSeqByTag_eq c ids path]
    exact nodup_dictUpdate [] _ List.nodup_nil
  · rw [hT, List.flatMap_assoc]
    exact (perm_flatMap_left ids _ _ fun id _ => (groups_sections c id path).perm).trans
      (perm_filter_any (c.allSeq path) ids hids)
  · intro k rs h
    rw [hT] at h
    obtain ⟨id, _, hm⟩ := List.mem_flatMap.1 h
    refine ⟨fun r1 h1 r2 h2 => ?_, (groups_sections c id path).nonempty _ hm⟩
    obtain ⟨s1, c1, a1⟩ := mem_sec_entry c id path k rs hm r1 h1
    obtain ⟨s2, c2, a2⟩ := mem_sec_entry c id path k rs hm r2 h2
    exact hsec r1 a1 r2 a2 (by rw [s1]; rfl) (by rw [s2]; rfl) (by rw [c1, c2])

namespace C14Ex

-- two paths, two definitions (ids 5, 6) sharing a tag, a simple result in between, three sections

def r1 : CRes := ⟨1, 1, some "t", some 5, some 10⟩
def r2 : CRes := ⟨2, 1, some "t", some 5, some 10⟩
def r3 : CRes := ⟨3, 1, some "x", none, none⟩          -- simple result
def r4 : CRes := ⟨4, 2, some "t", some 6, some 20⟩
def r5 : CRes := ⟨5, 1, some "t", some 5, some 11⟩
def r6 : CRes := ⟨6, 2, some "t", some 6, some 20⟩

def coll : Coll := [[r1, r2, r3], [r4, r5, r6]].foldl Coll.add []

theorem coll_reach : coll.Reach := ⟨_, rfl⟩

example : coll.items = [(1, [r1, r2, r3, r5]), (2, [r4, r6])] := by decide +kernel

example : coll.findSeqByTag [5, 6] none
    = [(some 10, [r1, r2]), (some 11, [r5]), (some 20, [r4, r6])] := by decide +kernel

example : coll.findSeqByTag [5, 6] (some 2) = [(some 20, [r4, r6])] := by decide +kernel

example : coll.findSeqSections 5 none = [(some 10, [r1, r2]), (some 11, [r5])] := by decide +kernel

example : coll.findByTag "t" none = [r1, r2, r5, r4, r6] ∧ coll.len = 6 := by decide +kernel

/-- the uniqueness hypothesis of `C14_by_tag_partition` is satisfiable -/
example : ∀ r1 ∈ coll.all, ∀ r2 ∈ coll.all, r1.seqId.isSome → r2.seqId.isSome →
    r1.sec = r2.sec → r1.src = r2.src ∧ r1.seqId = r2.seqId := by decide +kernel

end C14Ex

end Sk

#print axioms Sk.C14_reach_inv
#print axioms Sk.C14_reach_add
#print axioms Sk.C14_reach_nil
#print axioms Sk.C14_add_multiset
#print axioms Sk.C14_len
#print axioms Sk.C14_all_items
#print axioms Sk.C14_items_findByPath
#print axioms Sk.C14_unknown_path
#print axioms Sk.C14_find_by_tag
#print axioms Sk.C14_find_by_tag_unknown
#print axioms Sk.C14_allSeq
#print axioms Sk.C14_sections_partition
#print axioms Sk.C14_by_tag_partition
#print axioms Sk.C14Ex.coll_reach
