/-
  SkModel.Theorems.C11 — the seeker's line lookup is exact.

  `findTokenReverse` / `findToken` (the chunked scans for a line feed, `SEEK_HORIZON`
  bytes at a time, at most `MAX_SEEK_HORIZON_EXPAND` chunks) return exactly the line feed
  the declarative specification names, or refuse with the max-line-length error — never
  a wrong offset; `tryFindLine` returns exactly the line containing the offset whenever
  that line is at most `(EXP - 1) * H` bytes long, and for longer lines is exact or
  refuses (no assertion failure).  The `*_sound` / `*_error` lemmas hold for all files, offsets
  and constants; the exact forms need a start inside the file (`s ≤ F.len`), `0 < H` and `0 < EXP`.
-/
import SkModel.Proofs.SeekL1

namespace Sk
open Sk.SeekL1

/-- the bytes `EXP` attempts cover: the last attempt is the one that notices the file edge -/
theorem SeekK.exp_mul (K : SeekK) (hE : 0 < K.EXP) :
    K.EXP * K.H = (K.EXP - 1) * K.H + K.H := by
  rw [← Nat.succ_mul, Nat.succ_eq_add_one, Nat.sub_add_cancel hE]

theorem ftr_exact (K : SeekK) (hH : 0 < K.H) (hE : 0 < K.EXP) (F : FileV) (s : Nat)
    (hs : s ≤ F.len) :
    findTokenReverse K F s =
      match Spec.lastLFBefore F s with
      | some i => if s - i ≤ K.EXP * K.H then .ok (.found i) else .error .maxLineLen
      | none   => if s ≤ (K.EXP - 1) * K.H then .ok (.edge 0) else .error .maxLineLen := by
  unfold findTokenReverse
  rw [ftrLoop_eq K hH F s K.EXP s (-(K.H : Int)) hs (by omega), Spec.lastLFBefore_eq]
  unfold ftrR
  rw [K.exp_mul hE]
  cases rfindLF F 0 s <;> exact ite_cond_congr (propext (by omega))

theorem ft_exact (K : SeekK) (hH : 0 < K.H) (hE : 0 < K.EXP) (F : FileV) (s : Nat)
    (hs : s ≤ F.len) :
    findToken K F s =
      match Spec.firstLFFrom F s (F.len - s) with
      | some j => if j - s < K.EXP * K.H then .ok (.found j) else .error .maxLineLen
      | none   =>
        if F.len - s ≤ (K.EXP - 1) * K.H then .ok (.edge F.len) else .error .maxLineLen := by
  unfold findToken
  rw [ftLoop_eq K hH F K.EXP s (F.len - s) (by omega), Spec.firstLFFrom_eq]
  unfold ftR
  rw [K.exp_mul hE]
  cases h : findLF F s (F.len - s) with
  | some j => exact ite_cond_congr (propext (by have := (findLF_some h).1; omega))
  | none => exact ite_cond_congr (propext (by omega))

/-- from any start offset, what a scan finds is a real line feed on its side of the start -/
theorem ftr_found_sound (K : SeekK) (F : FileV) (s : Nat) (i : Int)
    (h : findTokenReverse K F s = .ok (.found i)) :
    ∃ n : Nat, i = n ∧ n < s ∧ n < F.len ∧ F.isLF n = true := by
  rcases (findTokenReverse_post K F s).of_ok h with h | ⟨n, h, h1, h2, h3⟩
  · cases h
  · cases h; exact ⟨n, rfl, h3, h1, h2⟩

theorem ftr_found_sound_nat (K : SeekK) (F : FileV) (s i : Nat)
    (h : findTokenReverse K F s = .ok (.found i)) :
    i < s ∧ i < F.len ∧ F.isLF i = true := by
  obtain ⟨n, h1, h2⟩ := ftr_found_sound K F s i h
  cases Int.ofNat.inj h1; exact h2

theorem ftr_edge_sound (K : SeekK) (F : FileV) (s : Nat) (e : Int)
    (h : findTokenReverse K F s = .ok (.edge e)) : e = 0 := by
  rcases (findTokenReverse_post K F s).of_ok h with h | ⟨n, h, _⟩
  · cases h; rfl
  · cases h

theorem ft_found_sound (K : SeekK) (F : FileV) (s : Nat) (j : Int)
    (h : findToken K F s = .ok (.found j)) :
    ∃ n : Nat, j = n ∧ s ≤ n ∧ n < F.len ∧ F.isLF n = true := by
  rcases (findToken_post K F s).of_ok h with h | ⟨n, h, h1, h2, h3⟩
  · cases h
  · cases h; exact ⟨n, rfl, h3, h1, h2⟩

theorem ft_found_sound_nat (K : SeekK) (F : FileV) (s j : Nat)
    (h : findToken K F s = .ok (.found j)) :
    s ≤ j ∧ j < F.len ∧ F.isLF j = true := by
  obtain ⟨n, h1, h2⟩ := ft_found_sound K F s j h
  cases Int.ofNat.inj h1; exact h2

theorem ft_edge_sound (K : SeekK) (F : FileV) (s : Nat) (e : Int)
    (h : findToken K F s = .ok (.edge e)) : e = F.len := by
  rcases (findToken_post K F s).of_ok h with h | ⟨n, h, _⟩
  · cases h; rfl
  · cases h

/-- the scans only ever fail with the max-line-length error -/
theorem ftr_error (K : SeekK) (F : FileV) (s : Nat) (e : SeekErr)
    (h : findTokenReverse K F s = .error e) : e = .maxLineLen :=
  (findTokenReverse_post K F s).of_error h

theorem ft_error (K : SeekK) (F : FileV) (s : Nat) (e : SeekErr)
    (h : findToken K F s = .error e) : e = .maxLineLen :=
  (findToken_post K F s).of_error h

theorem findToken_spec (K : SeekK) (hH : 0 < K.H) (hE : 0 < K.EXP) (F : FileV) (o : Nat)
    (ho : o ≤ F.len) :
    findToken K F o = .ok (specElf F o) ∨
      (findToken K F o = .error .maxLineLen ∧ (K.EXP - 1) * K.H < Spec.lineEnd F o - o) := by
  rw [ft_exact K hH hE F o ho, K.exp_mul hE]
  unfold specElf Spec.lineEnd
  cases Spec.firstLFFrom F o (F.len - o) with
  | some j =>
    by_cases hc : j - o < (K.EXP - 1) * K.H + K.H
    · exact .inl (if_pos hc)
    · exact .inr ⟨if_neg hc, by rw [Option.getD_some]; omega⟩
  | none =>
    by_cases hc : F.len - o ≤ (K.EXP - 1) * K.H
    · exact .inl (if_pos hc)
    · exact .inr ⟨if_neg hc, by rw [Option.getD_none]; omega⟩

theorem findTokenReverse_spec (K : SeekK) (hH : 0 < K.H) (hE : 0 < K.EXP) (F : FileV)
    (o : Nat) (ho : o ≤ F.len) :
    findTokenReverse K F o = .ok (specSlf F o) ∨
      (findTokenReverse K F o = .error .maxLineLen ∧
        (K.EXP - 1) * K.H < o - Spec.lineStart F o) := by
  rw [ftr_exact K hH hE F o ho, K.exp_mul hE]
  unfold specSlf Spec.lineStart
  cases Spec.lastLFBefore F o with
  | some i =>
    by_cases hc : o - i ≤ (K.EXP - 1) * K.H + K.H
    · exact .inl (if_pos hc)
    · exact .inr ⟨if_neg hc, by dsimp only; omega⟩
  | none =>
    by_cases hc : o ≤ (K.EXP - 1) * K.H
    · exact .inl (if_pos hc)
    · exact .inr ⟨if_neg hc, by dsimp only; omega⟩

theorem findToken_short (K : SeekK) (hH : 0 < K.H) (hE : 0 < K.EXP) (F : FileV) (o : Nat)
    (ho : o ≤ F.len)
    (hshort : Spec.lineEnd F o - Spec.lineStart F o ≤ (K.EXP - 1) * K.H) :
    findToken K F o = .ok (specElf F o) :=
  (findToken_spec K hH hE F o ho).resolve_right fun h => by
    have := Spec.lineStart_le F o
    omega

theorem findTokenReverse_short (K : SeekK) (hH : 0 < K.H) (hE : 0 < K.EXP) (F : FileV)
    (o : Nat) (ho : o ≤ F.len)
    (hshort : Spec.lineEnd F o - Spec.lineStart F o ≤ (K.EXP - 1) * K.H) :
    findTokenReverse K F o = .ok (specSlf F o) :=
  (findTokenReverse_spec K hH hE F o ho).resolve_right fun h => by
    have := (Spec.le_lineEnd F o ho).1
    omega

/-- `tryFindLine` is exact or refuses, for lines of any length -/
theorem C11_line_exact_or_refuses (K : SeekK) (hH : 0 < K.H) (hE : 0 < K.EXP) (F : FileV)
    (o : Nat) (ho : o ≤ F.len) :
    tryFindLine K F o none none = .error .maxLineLen ∨
    ∃ l, tryFindLine K F o none none = .ok l ∧ l.startOffset = Spec.lineStart F o ∧
      l.elf = (if Spec.lineEnd F o < F.len then Tok.found (Spec.lineEnd F o)
               else Tok.edge F.len) := by
  rcases findToken_spec K hH hE F o ho with h1 | ⟨h1, _⟩
  · rcases findTokenReverse_spec K hH hE F o ho with h2 | ⟨h2, _⟩
    · exact .inr ⟨_, tryFindLine_exact h1 h2 none none ⟨nofun, nofun⟩, specSlf_start F o _,
        specElf_eq F o⟩
    · left; rw [tryFindLine_eq, h1, h2]; rfl
  · left; rw [tryFindLine_eq, h1]; rfl

/-- C11: the line containing `o` is found exactly, provided it is at most `(EXP-1)*H` long -/
theorem C11_line_exact (K : SeekK) (hH : 0 < K.H) (hE : 0 < K.EXP) (F : FileV) (o : Nat)
    (ho : o ≤ F.len)
    (hshort : Spec.lineEnd F o - Spec.lineStart F o ≤ (K.EXP - 1) * K.H) :
    ∃ l, tryFindLine K F o none none = .ok l ∧
      l.startOffset = Spec.lineStart F o ∧
      l.elf = (if Spec.lineEnd F o < F.len then Tok.found (Spec.lineEnd F o)
               else Tok.edge F.len) ∧
      l.endOffset = (if Spec.lineEnd F o < F.len then (Spec.lineEnd F o : Int) - 1
                     else F.len) := by
  refine ⟨_, tryFindLine_exact (findToken_short K hH hE F o ho hshort)
    (findTokenReverse_short K hH hE F o ho hshort) none none ⟨nofun, nofun⟩, specSlf_start F o _,
    specElf_eq F o, ?_⟩
  show LLine.endOffset ⟨_, specElf F o⟩ = _
  rw [specElf_eq]
  split <;> rfl

namespace SeekL1
/-- decidable equality of results, for `decide` (scoped: active under `open Sk.SeekL1`) -/
scoped instance instDecEqExcept {ε α : Type} [DecidableEq ε] [DecidableEq α] :
    DecidableEq (Except ε α)
  | .ok a, .ok b => if h : a = b then isTrue (by rw [h]) else isFalse (fun h' => h (by cases h'; rfl))
  | .error a, .error b =>
    if h : a = b then isTrue (by rw [h]) else isFalse (fun h' => h (by cases h'; rfl))
  | .ok _, .error _ => isFalse (fun h => by cases h)
  | .error _, .ok _ => isFalse (fun h => by cases h)
end SeekL1

/-- 15 bytes, line feeds at 2 and 9: lines `[0,2]`, `[3,9]`, `[10,15)` -/
def SeekL1.exF : FileV := ⟨15, fun i => [2, 9].contains i⟩

/-- H = 4, EXP = 3: from offset 7 the first chunk `[3,7)` has no line feed, the line feed
    at 2 sits in the partial chunk `[0,3)` at the start of the file -/
example : tryFindLine ⟨4, 3, 5⟩ exF 7 none none = .ok ⟨.found 2, .found 9⟩ := by decide

example : findTokenReverse ⟨4, 3, 5⟩ exF 7 = .ok (.found 2) := by decide

/-- the last line: end of file reached forwards -/
example : tryFindLine ⟨4, 3, 5⟩ exF 12 none none = .ok ⟨.found 9, .edge 15⟩ := by decide

/-- the first line: start of file reached backwards, through the partial chunk -/
example : tryFindLine ⟨4, 3, 5⟩ exF 1 none none = .ok ⟨.edge 0, .found 2⟩ := by decide

/-- H = 2, EXP = 3 (at most 6 bytes scanned): from offset 9 the line feed at 2 is 7 bytes
    back — the lookup refuses -/
example : tryFindLine ⟨2, 3, 5⟩ exF 9 none none = .error .maxLineLen := by decide

example : findTokenReverse ⟨2, 3, 5⟩ exF 9 = .error .maxLineLen := by decide

/-- 15 bytes, one line feed at 2: from offset 4 the end of the file is 11 > (3-1)*4 bytes
    ahead — the forward scan refuses -/
example : tryFindLine ⟨4, 3, 5⟩ ⟨15, fun i => [2].contains i⟩ 4 none none =
    .error .maxLineLen := by decide

/-- the hypotheses of `C11_line_exact` are satisfiable: the instance at offset 7 -/
example : ∃ l, tryFindLine ⟨4, 3, 5⟩ exF 7 none none = .ok l ∧ l.startOffset = 3 ∧
    l.endOffset = 8 := by
  obtain ⟨l, h1, h2, _, h4⟩ := C11_line_exact ⟨4, 3, 5⟩ (by decide) (by decide) exF 7
    (by decide) (by decide)
  refine ⟨l, h1, ?_, ?_⟩
  · rw [h2]; decide
  · rw [h4]; decide

end Sk

#print axioms Sk.ftr_exact
#print axioms Sk.ft_exact
#print axioms Sk.C11_line_exact
#print axioms Sk.C11_line_exact_or_refuses
#print axioms Sk.ftr_found_sound
#print axioms Sk.ftr_found_sound_nat
#print axioms Sk.ftr_edge_sound
#print axioms Sk.ft_found_sound
#print axioms Sk.ft_found_sound_nat
#print axioms Sk.ft_edge_sound
#print axioms Sk.ftr_error
#print axioms Sk.ft_error
