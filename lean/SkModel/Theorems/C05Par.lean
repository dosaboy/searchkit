/-
  C05 in the multi-process setting (`SkModel.ParEncode` on top of `SkModel.ParStore`):
  the results a finished worker exported read back, through the SHARED store, exactly the
  captured values, tag and sequence id - in every reachable state, for every interleaving.

  Composition of C06 (every index a worker returned stands for its value in the local store,
  `Inv4.ret`; a finished worker has run its whole program, `C06_finished`, and the shared store
  resolves all its items, `C06_resolve_worker`) with the read side of `SkModel.Encode`
  (`Enc.ResRel.readback` of `SkModel.Proofs.EncodeLemmas`).  The proof is a combinatorial
  induction over `rs` / `r.parts` that peels the worker's program three micro-operations at a
  time.
-/
import SkModel.ParEncode
import SkModel.Theorems.C06
import SkModel.Proofs.EncodeLemmas

namespace Sk

namespace C05Par
open Enc

/-- the return values `rets` answer the program `prog` soundly with respect to the store `st`:
    one each, standing for the value of its micro-operation -/
abbrev Good (st : Store) : List (Ns × Option Val) → List (Option Nat) → Prop :=
  All₂ fun op r => st.Sound op.2 r

theorem microOps_append (a b : List (Option Val × Option Val × Option Val)) :
    microOps (a ++ b) = microOps a ++ microOps b := by
  induction a with
  | nil => rfl
  | cons x xs ih =>
    obtain ⟨t, sq, v⟩ := x
    simp [microOps, ih]

theorem parts_spec {st : Store} (t sq : Option Val) :
    ∀ (ps : List Part) {rets : List (Option Nat)} {rest : List (Ns × Option Val)},
      Good st (microOps (ps.map fun p => (t, sq, p.val)) ++ rest) rets →
      All₂ (PartRel st) ps (partsFromRets ps rets).1 ∧ Good st rest (partsFromRets ps rets).2
  | [], _, _, H => ⟨.nil, H⟩
  | p :: ps, _, _, H => by
    cases H with | cons h H => cases H with | cons _ H => cases H with | cons _ H =>
    exact ⟨.cons ⟨rfl, rfl, h⟩ (parts_spec t sq ps H).1, (parts_spec t sq ps H).2⟩

theorem res_spec {st : Store} (seqVal : Nat → Val) (r : Res) (rs : List Res)
    {rets : List (Option Nat)}
    (H : Good st (microOps (addOps seqVal (r :: rs))) rets) :
    ResRel st seqVal r (resFromRets r rets).1 ∧
      Good st (microOps (addOps seqVal rs)) (resFromRets r rets).2 := by
  have H' : Good st (microOps (r.parts.map fun p => (r.tag, r.seqId.map seqVal, p.val)) ++
      ((Ns.value, none) :: (Ns.tag, r.tag) :: (Ns.seq, r.seqId.map seqVal) ::
        microOps (addOps seqVal rs))) rets := by
    simpa [addOps, microOps_append, microOps] using H
  obtain ⟨hp, hg⟩ := parts_spec r.tag (r.seqId.map seqVal) r.parts H'
  generalize hq : (partsFromRets r.parts rets) = q at hp hg
  obtain ⟨es, q⟩ := q
  cases hg with | cons _ hg => cases hg with | cons ht hg => cases hg with | cons hs hg =>
  simp only [resFromRets, hq]
  exact ⟨⟨rfl, rfl, rfl, hp, ht, hs⟩, hg⟩

theorem all_spec {st : Store} (seqVal : Nat → Val) :
    ∀ (rs : List Res) {rets : List (Option Nat)},
      Good st (microOps (addOps seqVal rs)) rets →
      All₂ (ResRel st seqVal) rs (allFromRets rs rets)
  | [], _, _ => .nil
  | r :: rs, _, H => .cons (res_spec seqVal r rs H).1 (all_spec seqVal rs (res_spec seqVal r rs H).2)

/- `s.sharedStore` is a view of the shared data for `get` only: `sdata` is newest-first with
   repeated keys, so it is not a reachable `Store` and `Store.Inv` does not hold of it; only
   `Store.get` / `Store.Sound` are meant to be used on it. -/
theorem good_of_done {B : Nat} {progs : Nat → List (Ns × Option Val)} {s : PState}
    (hB : 0 < B) (h : PReach B progs s) {w : Nat} (hd : (s.ws w).pc = .done) :
    Good s.sharedStore (progs w) (s.ws w).rets := by
  refine .of_getElem? (C06_finished hB h w (.inr hd)).2.symm fun k op r hop hr => ?_
  obtain ⟨r', hr', hret⟩ :=
    (Par.reach_inv hB h).i4.ret w k op (List.getElem?_eq_some_iff.mp hr).1 hop
  cases hr'.symm.trans hr
  exact .of_ret hret (C06_resolve_worker hB h hd)

end C05Par

open C05Par in
/-- C05 in the multi-process setting: worker `w` has built and exported the results `rs`
    (its program is the micro-operations of the `add` calls this makes) and has finished
    `sync()`.  Then every exported result, read through the SHARED store - in any reachable
    state, whatever the other workers have done or are still doing, for every interleaving -
    gives back exactly the captured values, the tag and the sequence id. -/
theorem C05_parallel {B : Nat} {progs : Nat → List (Ns × Option Val)} {s : PState}
    (hB : 0 < B) (h : PReach B progs s) {w : Nat} (hd : (s.ws w).pc = .done)
    (seqVal : Nat → Val) (rs : List Res)
    (hprog : progs w = microOps (addOps seqVal rs)) :
    (allFromRets rs (s.ws w).rets).length = rs.length ∧
    ∀ k (hk : k < rs.length) (hk' : k < (allFromRets rs (s.ws w).rets).length),
      let r := rs[k]; let e := (allFromRets rs (s.ws w).rets)[k]
      e.ln = r.ln ∧ e.sec = r.sec ∧ e.fields = r.fields ∧
      (∀ i, e.getIdx s.sharedStore i = r.getIdx i) ∧
      (∀ nm, e.getName s.sharedStore nm = r.getName nm) ∧
      e.iter s.sharedStore = r.iter ∧
      e.tag s.sharedStore = r.tag ∧
      e.seqId s.sharedStore = r.seqId.map seqVal := by
  have hg : Good s.sharedStore (microOps (addOps seqVal rs)) (s.ws w).rets := by
    rw [← hprog]
    exact good_of_done hB h hd
  have hrel := all_spec seqVal rs hg
  exact ⟨hrel.length_eq.symm, fun k hk hk' => (hrel.get k hk hk').readback⟩

/-! ### non-vacuity: a concrete reachable state of a 2-worker system

  Block size 4.  Worker 0 exports one result (two groups, the second unmatched; tag `t0`, no
  sequence id), worker 1 one result of a sequence search (one group, which captured the SAME
  text `a0`; tag `t1`, sequence id 7).  Worker 0 is granted [0,4), worker 1 [4,8); their steps
  are interleaved; worker 0 has finished `sync()` while worker 1 is still in the middle of its
  program (it has not synced anything). -/

def C05Par.demo_seqVal : Nat → Val := fun _ => "q7"

def C05Par.demo_rs0 : List Res :=
  [{ src := 0, ln := 3, tag := some "t0", seqId := none, sec := none,
     parts := [⟨1, some "a0", some "f"⟩, ⟨2, none, none⟩], fields := some ["f"] }]

def C05Par.demo_rs1 : List Res :=
  [{ src := 1, ln := 5, tag := some "t1", seqId := some 7, sec := some (7, 0),
     parts := [⟨0, some "a0", none⟩], fields := none }]

def C05Par.demo_progs : Nat → List (Ns × Option Val)
  | 0 => microOps (addOps C05Par.demo_seqVal C05Par.demo_rs0)
  | 1 => microOps (addOps C05Par.demo_seqVal C05Par.demo_rs1)
  | _ => []

def C05Par.demo_labels : List PLbl :=
  [ .acquire 0, .readPtr 0 0, .readPtr 0 0, .writePtr 0 4, .release 0,
    .acquire 1, .local_ 0, .readPtr 1 4, .local_ 0, .readPtr 1 4, .local_ 0, .writePtr 1 8,
    .release 1, .local_ 1, .local_ 0, .local_ 0, .local_ 0, .local_ 1, .local_ 0, .local_ 0,
    .local_ 0, .syncStart 0, .syncData 0 0 "a0", .local_ 1, .syncData 0 1 "t0", .syncDone 0 ]

open C05Par in
/-- the hypotheses of `C05_parallel` hold in a reachable state, for a non-empty `rs`, while
    another worker is still running; what the theorem then says about that state -/
example : ∃ s, PReach 4 demo_progs s ∧ (s.ws 0).pc = .done ∧ (s.ws 1).pc = .run ∧
    demo_progs 0 = microOps (addOps demo_seqVal demo_rs0) ∧ demo_rs0 ≠ [] ∧
    (s.ws 0).rets = [some 0, some 1, none, none, some 1, none, none, some 1, none] ∧
    (s.ws 1).rets = [some 4, some 5, some 6] ∧
    s.sdata = [(1, "t0"), (0, "a0")] ∧
    allFromRets demo_rs0 (s.ws 0).rets =
      [{ ln := 3, parts := [⟨1, some 0, some "f"⟩, ⟨2, none, none⟩], tagIdx := some 1,
         seqIdx := none, sec := none, fields := some ["f"] }] ∧
    (∀ e ∈ allFromRets demo_rs0 (s.ws 0).rets,
      e.getIdx s.sharedStore 1 = some "a0" ∧ e.getName s.sharedStore "f" = some "a0" ∧
      e.iter s.sharedStore = [some "a0", none] ∧ e.tag s.sharedStore = some "t0" ∧
      e.seqId s.sharedStore = none) := by
  have ho : (prun (PState.init 4 demo_progs) demo_labels).map C06_obs =
      some { ptr := 8, lock := none, grants0 := [0], grants1 := [4], pc0 := .done, pc1 := .run,
             sdata := [(1, "t0"), (0, "a0")],
             rets0 := [some 0, some 1, none, none, some 1, none, none, some 1, none],
             rets1 := [some 4, some 5, some 6],
             data0 := [(0, "a0"), (1, "t0")],
             data1 := [(4, "a0"), (5, "t1"), (6, "q7")] } := by decide
  obtain ⟨s, hs, ho⟩ := Option.map_eq_some_iff.mp ho
  simp only [C06_obs, C06_Obs.mk.injEq] at ho
  obtain ⟨-, -, -, -, h0, h1, hsd, hr0, hr1, -, -⟩ := ho
  have hreach : PReach 4 demo_progs s := ⟨_, hs⟩
  have hall : allFromRets demo_rs0 (s.ws 0).rets =
      [{ ln := 3, parts := [⟨1, some 0, some "f"⟩, ⟨2, none, none⟩], tagIdx := some 1,
         seqIdx := none, sec := none, fields := some ["f"] }] := by
    rw [hr0]; decide
  refine ⟨s, hreach, h0, h1, rfl, by decide, hr0, hr1, hsd, hall, ?_⟩
  -- the read-back facts are obtained from the theorem, not by evaluation
  obtain ⟨hlen, hrb⟩ := C05_parallel (by decide) hreach h0 demo_seqVal demo_rs0 rfl
  intro e he
  obtain ⟨k, hk, rfl⟩ := List.getElem_of_mem he
  have hk0 : k < demo_rs0.length := by rw [← hlen]; exact hk
  have hk1 : k = 0 := by
    have : demo_rs0.length = 1 := rfl
    omega
  subst hk1
  obtain ⟨-, -, -, hi, hn, hit, ht, hq⟩ := hrb 0 hk0 hk
  exact ⟨hi 1, hn "f", hit, ht, hq⟩

end Sk

#print axioms Sk.C05_parallel
