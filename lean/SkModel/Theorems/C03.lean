/-
  C03 — sequence search reports exactly the complete sections; none is ever lost.

  For every line table, every set of registered definitions (duplicates, simple and
  sequence searches, constrained or not) and every unconstrained sequence search `d`
  among them, what the task reports for `d` is exactly the rendering of the
  declaratively specified complete sections `Spec.sections`, in line order, each
  section under its own section id - whatever else is registered on the file
  (`runTask_proj`) and whatever happens later in the file (the specification of a
  section only looks at the lines up to the one that closes it).
-/
import SkModel.Proofs.TaskProj
import SkModel.Proofs.SeqCore

namespace Sk

theorem C03_sections_exact (t : TaskIn) (hwf : DefsWF t.defs) (d : Def) (s : SeqDef)
    (hd : d ∈ t.defs) (hk : d.kind = .seq s) (hc : d.cons = [])
    (rs : List Res) (st : Stats) (hrun : runTask t = .ok (rs, st)) :
    ∃ ids : List Nat, ids.Pairwise (· < ·) ∧ ids.length = (Spec.sections s t.n).length ∧
      (rs.filter (fun r => r.src == d.id)).map Res.view =
        ((Spec.sections s t.n).zip ids).flatMap (fun p => renderSection d.id s t.n p.1 p.2) := by
  obtain ⟨stF, out, fin, h1, h2, h3⟩ := runTask_proj t hwf d hd rs st hrun
  obtain ⟨hout, ids, hids, hlen, hview⟩ := seq_solo_spec_sorted d s hk hc t.n stF out fin h1 h2
  refine ⟨ids, hids, hlen, ?_⟩
  rw [h3, hout, List.nil_append]
  exact hview

/-- every result reported for `d` carries `d`'s sequence identity (`hc` is not used: the same
    holds for a constrained `d`) -/
theorem C03_identity (t : TaskIn) (hwf : DefsWF t.defs) (d : Def) (s : SeqDef)
    (hd : d ∈ t.defs) (hk : d.kind = .seq s) (hc : d.cons = [])
    (rs : List Res) (st : Stats) (hrun : runTask t = .ok (rs, st)) :
    ∀ r ∈ rs.filter (fun r => r.src == d.id), r.seqId = some d.id := by
  obtain ⟨stF, out, fin, h1, h2, h3⟩ := runTask_proj t hwf d hd rs st hrun
  intro r hr
  rw [h3, soloLoop_seq_out hk h1, List.nil_append] at hr
  exact (eofDef_src h2 (soloLoop_inv h1 (DInv_init d)) r hr).2

/-! Non-vacuity: lines S,B,E,S,S,B,E (the input on which searchkit lost the first section
    before /repo commit 6d8b9f0) give two sections; the model and the specification compute them. -/
namespace C03Ex

def cls : List String := ["S", "B", "E", "S", "S", "B", "E"]
def sdOf (c : String) : SDef :=
  { pats := [fun i => if cls[i]? = some c then some { g0 := c, groups := [] } else none] }
def s : SeqDef := { start := sdOf "S", body := some (sdOf "B"), end_ := some (sdOf "E"), tag := "q" }
def t : TaskIn := { n := 7, dec := fun _ => true, defs := [{ id := 0, kind := .seq s }] }

example : Spec.sections s 7 = [⟨0, [1], some 2⟩, ⟨4, [5], some 6⟩] := by decide

example : (match runTask t with
    | .ok (rs, _) => rs.map (fun r => (r.sec, r.ln))
    | .error _ => []) =
    [(some (0, 0), 1), (some (0, 0), 2), (some (0, 0), 3),
     (some (0, 3), 5), (some (0, 3), 6), (some (0, 3), 7)] := by decide

end C03Ex

end Sk

#print axioms Sk.C03_sections_exact
#print axioms Sk.C03_identity
