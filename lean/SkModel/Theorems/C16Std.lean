/-
  C16 on the bytes of a line, for the standard timestamp format: `apply_to_line` of a since
  constraint on a line that starts with a written timestamp passes iff that timestamp is at or
  after `current_date - window`; a line whose start does not parse is undecided.
  (`SkModel.StdTs.parseStd` is the concrete matcher; `C16_pass_iff` the calendar argument.)
-/
import SkModel.Theorems.C16
import SkModel.Proofs.StdFormat

namespace Sk

/-- `extracted_datetime` of the standard matcher on the bytes of a line: the body of `stdTs`
    (StdTs.lean) without the window and before `toSeconds`.  The driver computes `stdTs`
    (`Drv.stdTsTable`, its body inline), never this. -/
def stdExtract (line : List Nat) : Option Civil :=
  match parseStd line with
  | some c => if c.valid then some c else none
  | none => none

theorem stdExtract_fmtStd (ts : Civil) (ht : ts.valid = true) (rest : List Nat) :
    stdExtract (fmtStd ts ++ rest) = some ts := by
  unfold stdExtract
  rw [parseStd_fmtStd ts (Civil.fits_of_valid ts ht) rest]
  simp [ht]

/-- what is extracted is a real date-time -/
theorem stdExtract_valid (line : List Nat) (c : Civil) (h : stdExtract line = some c) :
    c.valid = true := by
  unfold stdExtract at h
  split at h
  · split at h
    · cases h; assumption
    · cases h
  · cases h

/-- C16, end to end for one line -/
theorem C16_std_line (cur ts since : Civil) (hc : cur.valid = true) (ht : ts.valid = true)
    (hs : since.valid = true) (days hours : Int)
    (hsince : since.toSeconds = cur.toSeconds - windowSeconds days hours) (rest : List Nat) :
    applyToLine since (stdExtract (fmtStd ts ++ rest)) =
      if cur.toSeconds - windowSeconds days hours ≤ ts.toSeconds then COut.pass else COut.fail := by
  rw [stdExtract_fmtStd ts ht rest]
  exact C16_pass_iff cur ts since hc ht hs days hours hsince

/-- a line that does not start with a timestamp of this format is undecided -/
theorem C16_std_undecided (since : Civil) (line : List Nat) (h : parseStd line = none) :
    applyToLine since (stdExtract line) = .undec := by
  simp [stdExtract, h, applyToLine]

/-- a look-alike that is not a real date (e.g. 2023-02-30) is undecided as well -/
theorem C16_std_lookalike (since : Civil) (line : List Nat) (c : Civil)
    (h : parseStd line = some c) (hv : c.valid = false) :
    applyToLine since (stdExtract line) = .undec := by
  simp [stdExtract, h, hv, applyToLine]

example : stdExtract (fmtStd ⟨2024, 2, 29, 23, 59, 59⟩ ++ [32, 120]) = some ⟨2024, 2, 29, 23, 59, 59⟩ := by
  decide
example : applyToLine ⟨2024, 1, 1, 0, 0, 0⟩ (stdExtract (fmtStd ⟨2023, 2, 30, 0, 0, 0⟩)) = .undec := by
  decide

end Sk

#print axioms Sk.C16_std_line
#print axioms Sk.C16_std_undecided
#print axioms Sk.C16_std_lookalike
#print axioms Sk.stdExtract_valid
