/-
  SkModel.Theorems.C07Global — `apply_global` over a searcher's history of `add` calls:
  the restriction set holds exactly the searches some `add` call opted out (each once); the
  searches registered on a path are those of the `add` calls whose expansion contains the
  path; the file-level constraint is skipped on a path iff some search registered on it
  (through ANY expansion) was opted out by SOME `add` call of the same searcher; an `add` call
  enters by the expansion of its path only, and a searcher without opt-outs applies the
  constraint everywhere.
-/
import SkModel.Searcher
import SkModel.Proofs.CatalogLemmas

namespace Sk.Srch
open Sk.Cat

theorem searchesOn_eq_getG (s : SearcherSt) (path : String) :
    s.searchesOn path = getG s.entries path := rfl

theorem addAll_nil (s : SearcherSt) : s.addAll [] = s := rfl

theorem addAll_append (s : SearcherSt) (ops ops' : List AddOp) :
    s.addAll (ops ++ ops') = (s.addAll ops).addAll ops' := by
  simp [SearcherSt.addAll, List.foldl_append]

theorem entries_addAll (s : SearcherSt) (ops : List AddOp) :
    (s.addAll ops).entries =
      ops.foldl (fun es op => register es op.search op.expanded) s.entries :=
  (List.foldl_hom SearcherSt.entries fun _ _ => rfl).symm

theorem searchesOn_addAll (s : SearcherSt) (ops : List AddOp) (path : String) :
    (s.addAll ops).searchesOn path =
      s.searchesOn path ++
        ops.flatMap (fun op => List.replicate (op.expanded.count path) op.search) := by
  rw [searchesOn_eq_getG, entries_addAll]
  exact getG_foldl_register AddOp.search AddOp.expanded ops s.entries path

theorem restr_add (s : SearcherSt) (op : AddOp) :
    (s.add op).restr =
      if op.agc || s.restr.contains op.search then s.restr else s.restr ++ [op.search] := rfl

theorem restr_add_nodup (s : SearcherSt) (op : AddOp) (h : s.restr.Nodup) :
    (s.add op).restr.Nodup := by
  rw [restr_add]
  split
  · exact h
  · next hc => exact Coll14.nodup_concat.2 ⟨fun hm => hc (by simp [hm]), h⟩

theorem mem_restr_add (s : SearcherSt) (op : AddOp) (i : Nat) :
    i ∈ (s.add op).restr ↔ i ∈ s.restr ∨ (op.search = i ∧ op.agc = false) := by
  rw [restr_add]
  cases op.agc
  · by_cases hm : op.search ∈ s.restr
    · simpa [hm] using fun e : op.search = i => e ▸ hm
    · simp [hm, eq_comm]
  · simp

theorem globalApplies_false_iff (s : SearcherSt) (path : String) :
    s.globalApplies path = false ↔ ∃ i, i ∈ s.searchesOn path ∧ i ∈ s.restr := by
  simp [SearcherSt.globalApplies, List.all_eq_false]

end Sk.Srch

namespace Sk
open Srch

/-- the restriction set of a searcher built by `ops` from a NEW searcher: exactly the searches
    some `add` call opted out, each once -/
theorem C07_restr_exact (ops : List AddOp) :
    let s := SearcherSt.addAll {} ops
    s.restr.Nodup ∧ ∀ i, i ∈ s.restr ↔ ∃ op ∈ ops, op.search = i ∧ op.agc = false := by
  refine ⟨List.foldlRecOn (motive := fun s => s.restr.Nodup) ops _ List.nodup_nil
    fun s h op _ => restr_add_nodup s op h, fun i => ?_⟩
  rw [SearcherSt.addAll, Coll14.mem_foldl_iff (obs := SearcherSt.restr) mem_restr_add]
  exact or_iff_right List.not_mem_nil

/-- exact (ordered, with multiplicity) form of `C07_searches_on` -/
theorem C07_searches_on_exact (ops : List AddOp) (path : String) :
    (SearcherSt.addAll {} ops).searchesOn path =
      ops.flatMap (fun op => List.replicate (op.expanded.count path) op.search) :=
  searchesOn_addAll {} ops path

/-- the searches registered on a path: those of the `add` calls whose expansion contains the
    path (as a set; order and multiplicity: `C07_searches_on_exact`) -/
theorem C07_searches_on (ops : List AddOp) (path : String) (i : Nat) :
    i ∈ (SearcherSt.addAll {} ops).searchesOn path ↔
      ∃ op ∈ ops, op.search = i ∧ path ∈ op.expanded := by
  simp [C07_searches_on_exact, List.mem_replicate, List.count_eq_zero, and_comm, eq_comm]

/-- `apply_global` skips the file-level constraint on `path` iff some search registered on that
    path - through ANY expansion (file, directory or glob form) - was opted out by SOME `add`
    call of this searcher -/
theorem C07_global_applies_iff (ops : List AddOp) (path : String) :
    (SearcherSt.addAll {} ops).globalApplies path = false ↔
      ∃ op₁ ∈ ops, ∃ op₂ ∈ ops, op₁.search = op₂.search ∧ path ∈ op₁.expanded ∧
        op₂.agc = false := by
  rw [globalApplies_false_iff]
  constructor
  · rintro ⟨i, hs, hr⟩
    obtain ⟨o1, ho1, hi1, hp⟩ := (C07_searches_on ops path i).1 hs
    obtain ⟨o2, ho2, hi2, ha⟩ := ((C07_restr_exact ops).2 i).1 hr
    exact ⟨o1, ho1, o2, ho2, hi1.trans hi2.symm, hp, ha⟩
  · rintro ⟨o1, ho1, o2, ho2, he, hp, ha⟩
    exact ⟨o1.search, (C07_searches_on ops path _).2 ⟨o1, ho1, rfl, hp⟩,
      ((C07_restr_exact ops).2 _).2 ⟨o2, ho2, he.symm, ha⟩⟩

/-- two histories of `add` calls with the same (search, expansion, opt-out) triples give the same
    decision for every path. An `AddOp` carries only the expansion of the path argument, not the
    form (file, directory, glob) it was written in, so no more than this can be said here. -/
theorem C07_global_path_form_irrelevant (ops ops' : List AddOp)
    (h : ops.map (fun o => (o.search, o.expanded, o.agc)) =
      ops'.map (fun o => (o.search, o.expanded, o.agc)))
    (path : String) :
    (SearcherSt.addAll {} ops).globalApplies path =
      (SearcherSt.addAll {} ops').globalApplies path := by
  -- an `AddOp` is its three fields, so the histories themselves agree
  rw [(List.map_inj_right fun a b hab => by
    cases a; cases b; simp only [Prod.mk.injEq] at hab; simp [hab]).1 h]

/-- a searcher none of whose `add` calls opted out applies the file-level constraint on every
    path (one searcher only: nothing is said here about two searchers side by side) -/
theorem C07_no_optout_applies_everywhere (ops : List AddOp) (h : ∀ op ∈ ops, op.agc = true)
    (path : String) : (SearcherSt.addAll {} ops).globalApplies path = true := by
  cases hg : (SearcherSt.addAll {} ops).globalApplies path with
  | true => rfl
  | false =>
    obtain ⟨_, _, o2, ho2, _, _, ha⟩ := (C07_global_applies_iff ops path).1 hg
    rw [h o2 ho2] at ha
    cases ha

namespace C07Gex

/-- search 1 on a file; search 2 on a directory expanding to two files, opted out;
    search 2 again (not opted out this time) on a third file; search 3 on a fourth -/
def hist : List AddOp :=
  [ ⟨1, ["/v/a.log"], true⟩,
    ⟨2, ["/v/a.log", "/v/b.log"], false⟩,
    ⟨2, ["/v/c.log"], true⟩,
    ⟨3, ["/v/d.log"], true⟩ ]

/-- three `add` calls: search 2 opted out on a two-file expansion, search 3 registered on one of
    those files as well -/
def hist3 : List AddOp :=
  [ ⟨1, ["/v/a.log"], true⟩,
    ⟨2, ["/v/b.log", "/v/c.log"], false⟩,
    ⟨3, ["/v/d.log", "/v/c.log"], true⟩ ]

example : (SearcherSt.addAll {} hist3).restr = [2] := by decide +kernel
example : (SearcherSt.addAll {} hist3).entries =
    [("/v/a.log", [1]), ("/v/b.log", [2]), ("/v/c.log", [2, 3]), ("/v/d.log", [3])] := by decide +kernel
example : (SearcherSt.addAll {} hist3).searchesOn "/v/c.log" = [2, 3] := by decide +kernel
example : (SearcherSt.addAll {} hist3).searchesOn "/v/a.log" = [1] := by decide +kernel
example : (SearcherSt.addAll {} hist3).searchesOn "/v/nowhere" = [] := by decide +kernel
example : (SearcherSt.addAll {} hist3).globalApplies "/v/b.log" = false := by decide +kernel
example : (SearcherSt.addAll {} hist3).globalApplies "/v/c.log" = false := by decide +kernel
example : (SearcherSt.addAll {} hist3).globalApplies "/v/a.log" = true := by decide +kernel
example : (SearcherSt.addAll {} hist3).globalApplies "/v/d.log" = true := by decide +kernel
example : (SearcherSt.addAll {} hist3).globalApplies "/v/nowhere" = true := by decide +kernel

-- the opt-out of one `add` call reaches the same search registered by ANOTHER call
example : (SearcherSt.addAll {} hist).restr = [2] := by decide +kernel
example : (SearcherSt.addAll {} hist).searchesOn "/v/a.log" = [1, 2] := by decide +kernel
example : (SearcherSt.addAll {} hist).globalApplies "/v/a.log" = false := by decide +kernel
example : (SearcherSt.addAll {} hist).globalApplies "/v/c.log" = false := by decide +kernel
example : (SearcherSt.addAll {} hist).globalApplies "/v/d.log" = true := by decide +kernel
-- a repeated opt-out is stored once
example : (SearcherSt.addAll {} (hist ++ [⟨2, ["/v/e.log"], false⟩])).restr = [2] := by decide +kernel

-- a new searcher with the first two calls minus the opt-out applies it on `/v/a.log`
example : (SearcherSt.addAll {} [⟨1, ["/v/a.log"], true⟩, ⟨2, ["/v/a.log", "/v/b.log"], true⟩]
    ).globalApplies "/v/a.log" = true := by decide +kernel

end C07Gex

end Sk

#print axioms Sk.C07_restr_exact
#print axioms Sk.C07_searches_on
#print axioms Sk.C07_searches_on_exact
#print axioms Sk.C07_global_applies_iff
#print axioms Sk.C07_global_path_form_irrelevant
#print axioms Sk.C07_no_optout_applies_everywhere
