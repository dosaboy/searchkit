/-
  C11 / C04 for the non-destructive form of `apply_to_file`: the offset it returns is the one the
  destructive form seeks to, and the file is left at 0 or at the end of the file.
-/
import SkModel.SeekerND
import SkModel.Proofs.SeekShape

namespace Sk

/-- the returned offset is exactly where the destructive form leaves the file -/
theorem C04_nd_returns_same (K : SeekK) (F : FileV) (ts : Nat → Option Int) (since : Int) :
    (applyToFileND K F ts since).map (·.1) = applyToFile K F ts since := by
  unfold applyToFileND applyToFile
  cases seekerRun K F ts since 0 with
  | ok p => rfl
  | error e => cases e <;> rfl

/-- the position the non-destructive form leaves: 0 or EOF -/
theorem C11_nd_position_shape (K : SeekK) (F : FileV) (ts : Nat → Option Int) (since : Int)
    (r : Nat × Nat) (h : applyToFileND K F ts since = .ok r) : r.2 = 0 ∨ r.2 = F.len := by
  unfold applyToFileND at h
  cases hr : seekerRun K F ts since 0 with
  | ok p => rw [hr] at h; cases h; exact .inl rfl
  | error e =>
    rw [hr] at h
    cases e with
    | assertFailed => cases h
    | noValidLines | maxLineLen => cases h; exact .inr rfl
    | _ => cases h; exact .inl rfl

/-- the seeker's `assert`s do not fail in the non-destructive form either; `.assertFailed` being
    the only error `applyToFileND` passes on, it always returns (`hH` is not needed, see
    `seek_no_assert`) -/
theorem C11_nd_no_assert (K : SeekK) (hH : 0 < K.H) (F : FileV) (ts : Nat → Option Int)
    (since : Int) : applyToFileND K F ts since ≠ .error .assertFailed := by
  intro h
  obtain ⟨p, hp⟩ := seek_no_assert K hH F ts since
  rw [← C04_nd_returns_same, h] at hp
  cases hp

end Sk

#print axioms Sk.C04_nd_returns_same
#print axioms Sk.C11_nd_position_shape
#print axioms Sk.C11_nd_no_assert
