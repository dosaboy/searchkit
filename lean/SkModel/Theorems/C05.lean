/-
  C05 — round trip of the index encoding of search results (`SearchResult._save_part`,
  `metadata`, `export` → `SearchResultMinimal`; read side `_get_store_id`, `get`,
  `__iter__`, `tag`, `sequence_id`; model: `SkModel.Encode`) through the
  de-duplicating store (`SkModel.Store`, C15).  `__getattr__` (`get(name)` if `name` is one of
  `field_names`) has no function of its own on the exported side: `e.fields = r.fields` and the
  `getName` equality below give it.

  Every value read back from an exported result — by group index, by field name or by
  iteration — equals the value captured; unmatched optional groups read back as `none`;
  tag and sequence id are those of the search that produced the result.  This holds
  against *any later* state of the store, from *any reachable* start store, whatever
  values / tags / sequence ids coincide textually and wherever the index blocks roll over.

  Standing hypotheses: block size `0 < B`; the blocks `[sup k, sup k + B)` granted to
  this store are pairwise disjoint; the start store is reachable.
-/
import SkModel.Proofs.EncodeLemmas
import SkModel.Theorems.C15

namespace Sk
open Enc

variable {B : Nat} {pre : Bool} {sup : Nat → Nat}

theorem C05_roundtrip (hB : 0 < B)
    (hsup : ∀ i j, i ≠ j → sup i + B ≤ sup j ∨ sup j + B ≤ sup i)
    {st : Store} (hr : Store.Reach B pre sup st) (seqVal : Nat → Val)
    (rs : List Res) (st' : Store) (es : List ERes)
    (h : encodeAll st sup seqVal rs = .ok (st', es))
    (st'' : Store) (ops : List (Option Val × Option Val × Option Val))
    (rs' : List (Option Nat × Option Nat × Option Nat))
    (hext : st'.addAll sup ops = .ok (st'', rs')) :
    es.length = rs.length ∧
    ∀ k (hk : k < rs.length) (hk' : k < es.length),
      let r := rs[k]; let e := es[k]
      e.ln = r.ln ∧ e.sec = r.sec ∧ e.fields = r.fields ∧
      (∀ i, e.getIdx st'' i = r.getIdx i) ∧
      (∀ nm, e.getName st'' nm = r.getName nm) ∧
      e.iter st'' = r.iter ∧
      e.tag st'' = r.tag ∧
      e.seqId st'' = r.seqId.map seqVal := by
  obtain ⟨hr', hlater⟩ := encodeAll_later hB hsup hr h
  have hrel := hlater ((C15_append_only_addAll hB hsup hr' hext).1.imp fun _ => Eq.symm)
  exact ⟨hrel.length_eq.symm, fun k hk hk' => (hrel.get k hk hk').readback⟩

/-- the special case "no later additions": read back through the store as it is right
    after the export -/
theorem C05_roundtrip_now (hB : 0 < B)
    (hsup : ∀ i j, i ≠ j → sup i + B ≤ sup j ∨ sup j + B ≤ sup i)
    {st : Store} (hr : Store.Reach B pre sup st) (seqVal : Nat → Val)
    (rs : List Res) (st' : Store) (es : List ERes)
    (h : encodeAll st sup seqVal rs = .ok (st', es)) :
    es.length = rs.length ∧
    ∀ k (hk : k < rs.length) (hk' : k < es.length),
      let r := rs[k]; let e := es[k]
      e.ln = r.ln ∧ e.sec = r.sec ∧ e.fields = r.fields ∧
      (∀ i, e.getIdx st' i = r.getIdx i) ∧
      (∀ nm, e.getName st' nm = r.getName nm) ∧
      e.iter st' = r.iter ∧
      e.tag st' = r.tag ∧
      e.seqId st' = r.seqId.map seqVal :=
  C05_roundtrip hB hsup hr seqVal rs st' es h st' [] [] rfl

/-- results exported by an *earlier* `encodeAll` stay readable after a later one on the
    same store (two batches of results sharing one store) -/
theorem C05_roundtrip_two_batches (hB : 0 < B)
    (hsup : ∀ i j, i ≠ j → sup i + B ≤ sup j ∨ sup j + B ≤ sup i)
    {st : Store} (hr : Store.Reach B pre sup st) (seqVal : Nat → Val)
    (rs₁ rs₂ : List Res) (st₁ st₂ : Store) (es₁ es₂ : List ERes)
    (h₁ : encodeAll st sup seqVal rs₁ = .ok (st₁, es₁))
    (h₂ : encodeAll st₁ sup seqVal rs₂ = .ok (st₂, es₂)) :
    es₁.length = rs₁.length ∧
    ∀ k (hk : k < rs₁.length) (hk' : k < es₁.length),
      let r := rs₁[k]; let e := es₁[k]
      (∀ i, e.getIdx st₂ i = r.getIdx i) ∧
      (∀ nm, e.getName st₂ nm = r.getName nm) ∧
      e.iter st₂ = r.iter ∧
      e.tag st₂ = r.tag ∧
      e.seqId st₂ = r.seqId.map seqVal := by
  obtain ⟨hr₁, hlater⟩ := encodeAll_later hB hsup hr h₁
  have hrel := hlater ((encodeAll_spec hB hsup seqVal rs₂ hr₁).of_eq h₂).2.1
  exact ⟨hrel.length_eq.symm, fun k hk hk' => (hrel.get k hk hk').readback.2.2.2⟩

/-- encoding never fails, and leaves a reachable store -/
theorem C05_encode_total (hB : 0 < B)
    (hsup : ∀ i j, i ≠ j → sup i + B ≤ sup j ∨ sup j + B ≤ sup i)
    {st : Store} (hr : Store.Reach B pre sup st) (seqVal : Nat → Val) (rs : List Res) :
    ∃ st' es, encodeAll st sup seqVal rs = .ok (st', es) ∧ Store.Reach B pre sup st' := by
  obtain ⟨st', es, h, hr', -⟩ := encodeAll_spec hB hsup seqVal rs hr
  exact ⟨st', es, h, hr'⟩

/-- A part without a value is exported without a store index, so it reads back as `none`
    from every store; a part with a value `x` is exported with an index that resolves to
    `x` in the store after the encoding. Positions, group indices and names are kept. -/
theorem C05_none_is_none (hB : 0 < B)
    (hsup : ∀ i j, i ≠ j → sup i + B ≤ sup j ∨ sup j + B ≤ sup i)
    {st : Store} (hr : Store.Reach B pre sup st) (tag seq : Option Val)
    (ps : List Part) (st' : Store) (es : List EPart)
    (h : encodeParts st sup tag seq ps = .ok (st', es)) :
    es.length = ps.length ∧
    ∀ k (hk : k < ps.length) (hk' : k < es.length),
      es[k].idx = ps[k].idx ∧ es[k].name = ps[k].name ∧
      (ps[k].val = none →
        es[k].sid = none ∧ ∀ st'' : Store, es[k].sid.bind st''.get = none) ∧
      (∀ x, ps[k].val = some x → ∃ i, es[k].sid = some i ∧ st'.get i = some x) := by
  obtain ⟨-, -, hrel⟩ := (encodeParts_spec hB hsup tag seq ps hr).of_eq h
  refine ⟨hrel.length_eq.symm, fun k hk hk' => ?_⟩
  obtain ⟨h1, h2, h3⟩ := hrel.get k hk hk'
  refine ⟨h1, h2, fun hn => ?_, h3.2⟩
  have := h3.1 hn
  exact ⟨this, fun st'' => by rw [this]; rfl⟩

/-- iteration yields `none` exactly at the unmatched positions, in any later store -/
theorem C05_iter_none (hB : 0 < B)
    (hsup : ∀ i j, i ≠ j → sup i + B ≤ sup j ∨ sup j + B ≤ sup i)
    {st : Store} (hr : Store.Reach B pre sup st) (seqVal : Nat → Val)
    (r : Res) (st' : Store) (e : ERes)
    (h : encodeRes st sup r (r.seqId.map seqVal) = .ok (st', e))
    (st'' : Store) (ops : List (Option Val × Option Val × Option Val))
    (rs' : List (Option Nat × Option Nat × Option Nat))
    (hext : st'.addAll sup ops = .ok (st'', rs')) :
    (e.iter st'').length = r.parts.length ∧
    ∀ k (hk : k < r.parts.length) (hk' : k < (e.iter st'').length),
      (e.iter st'')[k] = r.parts[k].val := by
  obtain ⟨hr', -, hrel⟩ := (encodeRes_spec hB hsup seqVal r hr).of_eq h
  have hx := (C15_append_only_addAll hB hsup hr' hext).1.imp fun _ => Eq.symm
  obtain ⟨-, -, -, -, -, hit, -⟩ := (hrel.mono hx).readback
  refine ⟨by rw [hit]; simp [Res.iter], fun k hk hk' => ?_⟩
  simp [hit, Res.iter]

/-! ### non-vacuity: B = 2, blocks [0,2), [10,12), [20,22), …; two results:
    the first has tag "t" and captures the value "t" (its own tag text) in the named
    group 1, nothing in the optional group 2, "x" in the named group 3; the second
    belongs to sequence 7 whose stored id is the text "x" (equal to a captured value),
    captures "x" again, "u" (its own tag text) and "y". -/

def C05_demo_sup : Nat → Nat := fun k => 10 * k
def C05_demo_seqVal : Nat → Val := fun _ => "x"

def C05_demo_rs : List Res :=
  [ { src := 0, ln := 3, tag := some "t", seqId := none, sec := none,
      parts := [⟨1, some "t", some "a"⟩, ⟨2, none, none⟩, ⟨3, some "x", some "c"⟩],
      fields := some ["a", "b", "c"] },
    { src := 1, ln := 5, tag := some "u", seqId := some 7, sec := some (7, 0),
      parts := [⟨1, some "x", none⟩, ⟨2, some "u", none⟩, ⟨3, some "y", none⟩],
      fields := none } ]

def C05_demo := encodeAll { B := 2, pre := true } C05_demo_sup C05_demo_seqVal C05_demo_rs

/-- iteration, tag and sequence id read back through the final store (after both encodes) -/
example : C05_demo.toOption.map (fun r => r.2.map (fun e => e.iter r.1)) =
    some [[some "t", none, some "x"], [some "x", some "u", some "y"]] := by decide +kernel

example : C05_demo.toOption.map (fun r => r.2.map (fun e => (e.tag r.1, e.seqId r.1))) =
    some [(some "t", none), (some "u", some "x")] := by decide +kernel

/-- `get(1)`, `get(2)`, `get(3)`: the unmatched group 2 of the first result reads `none` -/
example : C05_demo.toOption.map (fun r => r.2.map (fun e =>
      (e.getIdx r.1 1, e.getIdx r.1 2, e.getIdx r.1 3))) =
    some [(some "t", none, some "x"), (some "x", some "u", some "y")] := by decide +kernel

/-- `get("a")`, `get("b")`, `get("c")` -/
example : C05_demo.toOption.map (fun r => r.2.map (fun e =>
      (e.getName r.1 "a", e.getName r.1 "b", e.getName r.1 "c"))) =
    some [(some "t", none, some "x"), (none, none, none)] := by decide +kernel

/-- … which is exactly what the direct read side gives on the captured results -/
example : C05_demo.toOption.map (fun r => r.2.map (fun e => e.iter r.1)) =
    some (C05_demo_rs.map (·.iter)) := by decide +kernel

example : C05_demo.toOption.map (fun r => r.2.map (fun e => (e.tag r.1, e.seqId r.1))) =
    some (C05_demo_rs.map fun r => (r.tag, r.seqId.map C05_demo_seqVal)) := by decide +kernel

example : C05_demo.toOption.map (fun r => r.2.map (fun e =>
      (e.getIdx r.1 1, e.getIdx r.1 2, e.getIdx r.1 3))) =
    some (C05_demo_rs.map fun r => (r.getIdx 1, r.getIdx 2, r.getIdx 3)) := by decide +kernel

example : C05_demo.toOption.map (fun r => r.2.map (fun e =>
      (e.getName r.1 "a", e.getName r.1 "b", e.getName r.1 "c"))) =
    some (C05_demo_rs.map fun r => (r.getName "a", r.getName "b", r.getName "c")) := by decide +kernel

/-- the store: "t" (value and tag of result 0) is stored once, at index 0; "x" (a value in
    both results and the sequence id of the second) once, at index 1; "u" (value and tag of
    result 1) once, at index 10; the block [0,2) rolled over to [10,12). -/
example : C05_demo.toOption.map (fun r => (r.1.data, r.1.nblocks, r.1.alloc)) =
    some ([(0, "t"), (1, "x"), (10, "u"), (11, "y")], 2, some 10) := by decide +kernel

/-- the exported indices: the unmatched group has none -/
example : C05_demo.toOption.map (fun r => r.2.map (fun e => e.parts.map (·.sid))) =
    some [[some 0, none, some 1], [some 1, some 10, some 11]] := by decide +kernel

example : C05_demo.toOption.map (fun r => r.2.map (fun e => (e.tagIdx, e.seqIdx))) =
    some [(some 0, none), (some 10, some 1)] := by decide +kernel

/-- the hypotheses of the theorems are satisfied by the demo -/
example : ∀ i j : Nat, i ≠ j → C05_demo_sup i + 2 ≤ C05_demo_sup j ∨
    C05_demo_sup j + 2 ≤ C05_demo_sup i := by
  intro i j h; simp only [C05_demo_sup]; omega

example : ∃ st' es, C05_demo = .ok (st', es) ∧ Store.Reach 2 true C05_demo_sup st' :=
  C05_encode_total (by decide) (by intro i j h; simp only [C05_demo_sup]; omega)
    (Store.Reach.init 2 true C05_demo_sup) C05_demo_seqVal C05_demo_rs

end Sk

#print axioms Sk.C05_roundtrip
#print axioms Sk.C05_roundtrip_now
#print axioms Sk.C05_roundtrip_two_batches
#print axioms Sk.C05_encode_total
#print axioms Sk.C05_none_is_none
#print axioms Sk.C05_iter_none
