/-
  C06 — concurrent workers of `ResultStoreParallel` (model: `SkModel.ParStore`).

  Every theorem holds for every block size `B > 0`, every assignment of programs to workers
  (`progs : Nat → List (Ns × Option Val)`, any number of workers) and every label sequence,
  i.e. every interleaving of the workers at the granularity of single shared-state accesses.
  They are corollaries of the invariants of `SkModel.Proofs.ParInv*`.
-/
import SkModel.Proofs.ParInvProgress
import SkModel.Proofs.Trans

namespace Sk
open Par

def PReach (B : Nat) (progs : Nat → List (Ns × Option Val)) (s : PState) : Prop :=
  ∃ ls, prun (PState.init B progs) ls = some s

variable {B : Nat} {progs : Nat → List (Ns × Option Val)} {s : PState}

namespace Par

theorem reach_inv (hB : 0 < B) (h : PReach B progs s) : Inv B progs s := by
  obtain ⟨ls, hr⟩ := h
  rw [prun_eq_run] at hr
  exact LTS.run_inv (inv_step hB) (inv_init hB progs) hr

/-- invariant 1 needs no assumption on the block size -/
theorem reach_inv1 (h : PReach B progs s) : Inv1 B s := by
  obtain ⟨ls, hr⟩ := h
  rw [prun_eq_run] at hr
  exact LTS.run_inv (fun h1 hs => inv1_step h1 (step_of_pstep hs)) (Inv1.init B progs) hr

theorem prodSteps_le (hB : 0 < B) (W : List Nat) {ls : List PLbl} {s s' : PState}
    (hr : LTS.run pstep s ls = some s') :
    Inv B progs s → prodSteps W s ls + total W s' ≤ total W s := by
  refine LTS.run_induct (C := fun s ls s' => Inv B progs s → prodSteps W s ls + total W s' ≤ total W s)
    (fun s _ => by simp [prodSteps]) (fun {s l t ls s'} hst _ ih h => ?_) hr
  have := ih (inv_step hB h hst)
  obtain ⟨hle, hlt⟩ := total_step hB h (step_of_pstep hst) W
  simp only [prodSteps, hst]
  split
  · rename_i hc
    have := hlt hc.1 hc.2; omega
  · omega

end Par

/-- blocks granted to workers never overlap, and lie below the pointer -/
theorem C06_disjoint (h : PReach B progs s) :
    (∀ (w1 w2 i1 i2 : Nat) (h1 : i1 < (s.ws w1).grants.length) (h2 : i2 < (s.ws w2).grants.length),
      (w1, i1) ≠ (w2, i2) →
      (s.ws w1).grants[i1] + B ≤ (s.ws w2).grants[i2] ∨
      (s.ws w2).grants[i2] + B ≤ (s.ws w1).grants[i1]) ∧
    (∀ w g, g ∈ (s.ws w).grants → g + B ≤ s.ptr) := by
  have inv := reach_inv1 h
  refine ⟨?_, inv.below⟩
  intro w1 w2 i1 i2 h1 h2 hne
  refine inv.disj w1 w2 i1 i2 _ _ (List.getElem?_eq_getElem h1) (List.getElem?_eq_getElem h2) ?_
  rintro rfl rfl; exact hne rfl

/-- the lock discipline behind it: a worker inside `preallocate` holds the lock, the lock holder
    is inside `preallocate` or `sync`, and what the holder has read is still the pointer -/
theorem C06_lock (h : PReach B progs s) :
    s.B = B ∧
    (∀ w, (s.ws w).pc = .locked ∨ (s.ws w).pc = .read1 ∨ (s.ws w).pc = .read2 ∨ (s.ws w).pc = .wrote →
      s.lock = some w) ∧
    (∀ w, s.lock = some w → (s.ws w).pc = .locked ∨ (s.ws w).pc = .read1 ∨ (s.ws w).pc = .read2 ∨
      (s.ws w).pc = .wrote ∨ (s.ws w).pc = .sync) ∧
    (∀ w, (s.ws w).pc = .read1 ∨ (s.ws w).pc = .read2 → (s.ws w).r1 = s.ptr) ∧
    (∀ w, (s.ws w).pc = .read2 → (s.ws w).r2 = s.ptr) := by
  have inv := reach_inv1 h
  exact ⟨inv.hB, by simpa only [crit_iff] using inv.holds,
    by simpa only [crit_iff, or_assoc] using inv.held, inv.r1ok, inv.r2ok⟩

/-- The local store of worker `w` satisfies `Store.Inv` for a totally disjoint supplier that
    agrees with `PW.sup` on the blocks granted so far (the witness continues with fresh blocks above
    the pointer); and `w` holds at most one block it has not started to use. -/
theorem C06_local_inv (hB : 0 < B) (h : PReach B progs s) (w : Nat) :
    (∃ sup' : Nat → Nat,
      (∀ i j, i ≠ j → sup' i + B ≤ sup' j ∨ sup' j + B ≤ sup' i) ∧
      (∀ k, k < (s.ws w).grants.length → sup' k = (s.ws w).sup k) ∧
      Store.Inv B true sup' (s.ws w).st) ∧
    (s.ws w).st.nblocks ≤ (s.ws w).grants.length ∧
    (s.ws w).grants.length ≤ (s.ws w).st.nblocks + 1 := by
  have inv := reach_inv hB h
  exact ⟨⟨supx B s.ptr (s.ws w).grants, inv.i1.supx_disjoint w, fun _ => supx_eq_sup,
    inv.i2.linv w⟩, inv.i2.nb_le w, inv.i2.gl_le w⟩

/-- … hence for *every* supplier that agrees with `PW.sup` on the granted blocks -/
theorem C06_local_inv_any (hB : 0 < B) (h : PReach B progs s) (w : Nat) (sup' : Nat → Nat)
    (hs : ∀ k, k < (s.ws w).grants.length → sup' k = (s.ws w).sup k) :
    Store.Inv B true sup' (s.ws w).st := by
  have h2 := (reach_inv hB h).i2
  refine (h2.linv w).congr_sup hB fun k hk => ?_
  have hk' : k < (s.ws w).grants.length := by have := h2.nb_le w; omega
  rw [hs k hk', supx_eq_sup hk']

/-- every index of the local store lies in one of the worker's granted blocks -/
theorem C06_indices_in_blocks (hB : 0 < B) (h : PReach B progs s) (w : Nat) :
    ∀ i ∈ (s.ws w).st.data.map (·.1), ∃ g ∈ (s.ws w).grants, g ≤ i ∧ i < g + B := by
  have h2 := (reach_inv hB h).i2
  intro i hi
  obtain ⟨k, hk, hi⟩ := (h2.linv w).key_in_block hB hi
  have hk : k < (s.ws w).grants.length := Nat.lt_of_lt_of_le hk (h2.nb_le w)
  rw [supx_lt hk] at hi
  exact ⟨_, List.getElem_mem hk, hi⟩

/-- the indices of a local store are pairwise distinct (one value per index) -/
theorem C06_local_keys_nodup (hB : 0 < B) (h : PReach B progs s) (w : Nat) :
    ((s.ws w).st.data.map (·.1)).Nodup := by
  have inv := reach_inv hB h
  exact (inv.i2.linv w).keys_nodup hB (inv.i1.supx_disjoint w)

/-- two workers never hand out the same index -/
theorem C06_no_shared_index (hB : 0 < B) (h : PReach B progs s) {w1 w2 : Nat} (hne : w1 ≠ w2) :
    ∀ i1 ∈ (s.ws w1).st.data.map (·.1), ∀ i2 ∈ (s.ws w2).st.data.map (·.1), i1 ≠ i2 := by
  intro i1 hi1 i2 hi2 e
  subst e
  obtain ⟨g1, hg1, a1, b1⟩ := C06_indices_in_blocks hB h w1 i1 hi1
  obtain ⟨g2, hg2, a2, b2⟩ := C06_indices_in_blocks hB h w2 i1 hi2
  obtain ⟨k1, hk1⟩ := List.getElem?_of_mem hg1
  obtain ⟨k2, hk2⟩ := List.getElem?_of_mem hg2
  have := (reach_inv1 h).disj w1 w2 k1 k2 g1 g2 hk1 hk2 (fun e => absurd e hne)
  omega

/-- the shared data only contains items of local stores, and contains what was synced -/
theorem C06_shared_data (hB : 0 < B) (h : PReach B progs s) :
    (∀ e, e ∈ s.sdata → ∃ w, e ∈ (s.ws w).st.data) ∧
    (∀ w e, e ∈ (s.ws w).synced → e ∈ s.sdata) ∧
    (∀ w, (s.ws w).pc = .done → ∀ e, e ∈ (s.ws w).st.data → e ∈ (s.ws w).synced) :=
  ⟨(reach_inv hB h).i3.sd_src, (reach_inv hB h).i3.synced_sub, (reach_inv hB h).i3.done_all⟩

/-- whatever the shared store returns for an index of worker `w` is `w`'s value — at any time,
    whether or not anybody has finished -/
theorem C06_shared_lookup_sound (hB : 0 < B) (h : PReach B progs s) {w idx : Nat} {v v' : Val}
    (hm : (idx, v) ∈ (s.ws w).st.data) (hl : s.sdata.lookup idx = some v') : v' = v := by
  have inv := reach_inv hB h
  obtain ⟨w', hw'⟩ := inv.i3.sd_src _ (Coll14.mem_of_lookup hl)
  have hk : idx ∈ (s.ws w).st.data.map (·.1) := List.mem_map.mpr ⟨(idx, v), hm, rfl⟩
  have hk' : idx ∈ (s.ws w').st.data.map (·.1) := List.mem_map.mpr ⟨(idx, v'), hw', rfl⟩
  by_cases hww : w' = w
  · subst hww
    exact congrArg Prod.snd (Coll14.eq_of_map_eq (C06_local_keys_nodup hB h w') hw' hm rfl)
  · exact absurd rfl (C06_no_shared_index hB h hww idx hk' idx hk)

/-- a worker that has finished `sync` finds every one of its items in the shared store
    (the other workers may still be running) -/
theorem C06_resolve_worker (hB : 0 < B) (h : PReach B progs s) {w : Nat}
    (hd : (s.ws w).pc = .done) :
    ∀ idx v, (idx, v) ∈ (s.ws w).st.data → s.sdata.lookup idx = some v := by
  intro idx v hm
  have inv := reach_inv hB h
  have hsd : (idx, v) ∈ s.sdata := inv.i3.synced_sub w _ (inv.i3.done_all w hd _ hm)
  cases hl : s.sdata.lookup idx with
  | none => simpa using List.lookup_eq_none_iff.mp hl (idx, v) hsd
  | some v' => rw [C06_shared_lookup_sound hB h hm hl]

theorem C06_resolve (hB : 0 < B) (h : PReach B progs s) (hd : ∀ w, (s.ws w).pc = .done) :
    ∀ w idx v, (idx, v) ∈ (s.ws w).st.data → s.sdata.lookup idx = some v :=
  fun w => C06_resolve_worker hB h (hd w)

/-- The micro-operations executed so far are a prefix of the program, one return value each;
    the index returned for a stored value resolves to it in the local store. -/
theorem C06_rets (hB : 0 < B) (h : PReach B progs s) (w : Nat) :
    (s.ws w).ops = (progs w).drop (s.ws w).rets.length ∧
    (s.ws w).rets.length ≤ (progs w).length ∧
    (∀ (k : Nat) (ns : Ns), k < (s.ws w).rets.length → (progs w)[k]? = some (ns, none) →
      (s.ws w).rets[k]? = some none) ∧
    (∀ (k : Nat) (ns : Ns) (x : Val), k < (s.ws w).rets.length → (progs w)[k]? = some (ns, some x) →
      ∃ i, (s.ws w).rets[k]? = some (some i) ∧ (s.ws w).st.get i = some x) := by
  have inv := reach_inv hB h
  refine ⟨inv.i4.ops_eq w, inv.i4.len w, ?_, ?_⟩
  · intro k ns hk hop
    obtain ⟨r, hr, hret⟩ := inv.i4.ret w k _ hk hop
    rw [hr, hret.1 rfl]
  · intro k ns x hk hop
    obtain ⟨r, hr, hret⟩ := inv.i4.ret w k _ hk hop
    obtain ⟨i, rfl, hm⟩ := hret.2 x rfl
    exact ⟨i, hr, Coll14.lookup_of_mem (C06_local_keys_nodup hB h w) hm⟩

/-- every index a finished worker returned resolves in the shared store to the value stored
    under it -/
theorem C06_rets_resolve (hB : 0 < B) (h : PReach B progs s) {w : Nat}
    (hd : (s.ws w).pc = .done) (k : Nat) (ns : Ns) (x : Val)
    (hk : k < (s.ws w).rets.length) (hop : (progs w)[k]? = some (ns, some x)) :
    ∃ i, (s.ws w).rets[k]? = some (some i) ∧ s.sdata.lookup i = some x := by
  obtain ⟨r, hr, hret⟩ := (reach_inv hB h).i4.ret w k _ hk hop
  obtain ⟨i, rfl, hm⟩ := hret.2 x rfl
  exact ⟨i, hr, C06_resolve_worker hB h hd i x hm⟩

/-- a worker in `sync` or `done` has executed its whole program -/
theorem C06_finished (hB : 0 < B) (h : PReach B progs s) (w : Nat)
    (hd : (s.ws w).pc = .sync ∨ (s.ws w).pc = .done) :
    (s.ws w).ops = [] ∧ (s.ws w).rets.length = (progs w).length := by
  have inv := reach_inv hB h
  have ho := inv.i5.fin w hd
  have h1 := inv.i4.ops_eq w
  rw [ho] at h1
  exact ⟨ho, Nat.le_antisymm (inv.i4.len w) (List.drop_eq_nil_iff.mp h1.symm)⟩

/-- In every reachable state, as long as worker `w` is not `done`, some step is enabled: if the
    lock is held, the holder's next step (`readPtr`/`writePtr`/`release`), otherwise a step of `w`
    itself (a local micro-op — which cannot fail —, `acquire`, `syncStart`, `syncData`, `syncDone`);
    and it is *productive* (not one of the repeatable reverse-map accesses of `sync`, not a
    re-write of an item already synced), so that it decreases `C06_measure`
    (`C06_progress_measure`). -/
theorem C06_nodeadlock_productive (hB : 0 < B) (h : PReach B progs s) (w : Nat)
    (hnd : (s.ws w).pc ≠ .done) :
    ∃ l s', pstep s l = some s' ∧ actor l = s.lock.getD w ∧ productive s l := by
  have inv := reach_inv hB h
  obtain ⟨l, hl, ha, hp⟩ := enabled hB inv.i1 inv.i2 hnd
  obtain ⟨s', hs'⟩ := Option.isSome_iff_exists.mp hl
  exact ⟨l, s', hs', ha, hp⟩

theorem C06_nodeadlock (hB : 0 < B) (h : PReach B progs s) (w : Nat) (hnd : (s.ws w).pc ≠ .done) :
    ∃ l s', pstep s l = some s' := by
  obtain ⟨l, s', hs', -⟩ := C06_nodeadlock_productive hB h w hnd
  exact ⟨l, s', hs'⟩

/-- a local micro-operation that is ready never raises "failed to get store allocation" -/
theorem C06_no_alloc_error (hB : 0 < B) (h : PReach B progs s) (w : Nat)
    {ns : Ns} {v : Option Val} {rest : List (Ns × Option Val)}
    (hops : (s.ws w).ops = (ns, v) :: rest) (hready : (s.ws w).localReady = true) :
    ∃ st' r, (s.ws w).st.addTo (s.ws w).sup ns v = .ok (st', r) := by
  have inv := reach_inv hB h
  obtain ⟨st', r, e, -⟩ := local_spec hB inv.i1 inv.i2 w hops hready
  exact ⟨st', r, e⟩

/-- The progress measure of a finite set `W` of workers (the model has infinitely many workers,
    all of which have to `sync`, so a global measure would be infinite).  Per worker: remaining
    micro-ops, phase of the `preallocate` protocol, items not yet synced, lock still held. -/
def C06_measure (W : List Nat) (s : PState) : Nat := Par.total W s

/-- No step increases the measure; every *productive* step (`Par.productive`: any step except
    `syncRevRead`, `syncRevWrite`, and a `syncData` of an item that is already synced) of a worker
    in `W` strictly decreases it.  NB the excepted steps can be repeated for ever in the model:
    `sync`'s writes are not guarded by "not yet written". -/
theorem C06_progress_measure (hB : 0 < B) (h : PReach B progs s) (W : List Nat) {l : PLbl}
    {s' : PState} (hs : pstep s l = some s') :
    C06_measure W s' ≤ C06_measure W s ∧
    (productive s l → actor l ∈ W → C06_measure W s' < C06_measure W s) :=
  total_step hB (reach_inv hB h) (step_of_pstep hs) W

theorem C06_measure_zero (W : List Nat) (s : PState) :
    C06_measure W s = 0 ↔ ∀ w, w ∈ W → (s.ws w).pc = .done := total_eq_zero W s

/-- along any continuation of a reachable state, the workers in `W` make at most
    `C06_measure W s` productive steps: every schedule terminates up to the repeatable steps -/
theorem C06_bounded_work (hB : 0 < B) (h : PReach B progs s) (W : List Nat) {ls : List PLbl}
    {s' : PState} (hr : prun s ls = some s') :
    prodSteps W s ls + C06_measure W s' ≤ C06_measure W s :=
  prodSteps_le hB W (prun_eq_run s ls ▸ hr) (reach_inv hB h)

/-! ### non-vacuity: B = 2, two workers interleaved

  Worker 0 stores a0 (tag t0) and b0; worker 1 stores a1 (tag t1) and a1 again (sequence id q1).
  Worker 0 is granted [0,2) and [4,6), worker 1 [2,4) and [6,8); worker 0 syncs under the lock,
  worker 1 without it. -/

def C06_demo_progs : Nat → List (Ns × Option Val)
  | 0 => microOps [(some "t0", none, some "a0"), (none, none, some "b0")]
  | 1 => microOps [(some "t1", none, some "a1"), (none, some "q1", some "a1")]
  | _ => []

def C06_demo_labels : List PLbl :=
  [ .acquire 0, .readPtr 0 0, .readPtr 0 0, .writePtr 0 2, .release 0,
    .acquire 1, .local_ 0, .readPtr 1 2, .local_ 0, .readPtr 1 2, .local_ 0, .writePtr 1 4,
    .release 1, .acquire 0, .local_ 1, .readPtr 0 4, .local_ 1, .readPtr 0 4, .local_ 1,
    .writePtr 0 6, .local_ 1, .release 0, .local_ 1, .local_ 0, .acquire 1, .local_ 0,
    .readPtr 1 6, .local_ 0, .readPtr 1 6, .writePtr 1 8, .release 1,
    .acquire 0, .local_ 1, .syncData 0 0 "a0", .syncStart 1, .syncData 0 1 "t0",
    .syncData 1 2 "a1", .syncData 0 4 "b0", .syncData 1 3 "t1",
    .syncRevRead 0 .value "a0" false, .syncData 1 6 "q1", .syncRevWrite 0 .value "a0" 0,
    .syncRevRead 1 .value "a1" false, .syncRevRead 0 .value "b0" false,
    .syncRevWrite 1 .value "a1" 2, .syncRevWrite 0 .value "b0" 4,
    .syncRevRead 1 .tag "t1" false, .syncRevRead 0 .tag "t0" false,
    .syncRevWrite 1 .tag "t1" 3, .syncRevWrite 0 .tag "t0" 1,
    .syncRevRead 1 .seq "q1" false, .release 0, .syncRevWrite 1 .seq "q1" 6,
    .syncDone 0, .syncDone 1 ]

/-- first-order view of a state (workers 0 and 1) -/
structure C06_Obs where
  ptr : Nat
  lock : Option Nat
  grants0 : List Nat
  grants1 : List Nat
  pc0 : PPc
  pc1 : PPc
  sdata : List (Nat × Val)
  rets0 : List (Option Nat)
  rets1 : List (Option Nat)
  data0 : List (Nat × Val)
  data1 : List (Nat × Val)
deriving DecidableEq, Repr

def C06_obs (s : PState) : C06_Obs :=
  { ptr := s.ptr, lock := s.lock, grants0 := (s.ws 0).grants, grants1 := (s.ws 1).grants,
    pc0 := (s.ws 0).pc, pc1 := (s.ws 1).pc, sdata := s.sdata,
    rets0 := (s.ws 0).rets, rets1 := (s.ws 1).rets,
    data0 := (s.ws 0).st.data, data1 := (s.ws 1).st.data }

example : (prun (PState.init 2 C06_demo_progs) C06_demo_labels).map C06_obs =
    some { ptr := 8, lock := none, grants0 := [0, 4], grants1 := [2, 6], pc0 := .done, pc1 := .done,
           sdata := [(6, "q1"), (3, "t1"), (4, "b0"), (2, "a1"), (1, "t0"), (0, "a0")],
           rets0 := [some 0, some 1, none, some 4, none, none],
           rets1 := [some 2, some 3, none, some 2, none, some 6],
           data0 := [(0, "a0"), (1, "t0"), (4, "b0")],
           data1 := [(2, "a1"), (3, "t1"), (6, "q1")] } := by decide

/-- the demo state is reachable, so all theorems above apply to it -/
example : ∃ s, PReach 2 C06_demo_progs s ∧ (s.ws 0).pc = .done ∧ (s.ws 1).pc = .done ∧
    s.sdata.lookup 4 = some "b0" ∧ s.sdata.lookup 2 = some "a1" := by
  have ho : (prun (PState.init 2 C06_demo_progs) C06_demo_labels).map
      (fun s => ((s.ws 0).pc, (s.ws 1).pc, s.sdata.lookup 4, s.sdata.lookup 2)) =
      some (.done, .done, some "b0", some "a1") := by decide
  obtain ⟨s, hs, ho⟩ := Option.map_eq_some_iff.mp ho
  simp only [Prod.mk.injEq] at ho
  exact ⟨s, ⟨_, hs⟩, ho.1, ho.2.1, ho.2.2.1, ho.2.2.2⟩

/-- the measure of the two workers goes from 112 to 0 along the demo run, in 43 productive steps
    (the other 12 steps are the reverse-map accesses) -/
example : C06_measure [0, 1] (PState.init 2 C06_demo_progs) = 112 ∧
    (prun (PState.init 2 C06_demo_progs) C06_demo_labels).map (C06_measure [0, 1]) = some 0 ∧
    prodSteps [0, 1] (PState.init 2 C06_demo_progs) C06_demo_labels = 43 := by decide

end Sk

#print axioms Sk.C06_disjoint
#print axioms Sk.C06_lock
#print axioms Sk.C06_local_inv
#print axioms Sk.C06_local_inv_any
#print axioms Sk.C06_indices_in_blocks
#print axioms Sk.C06_local_keys_nodup
#print axioms Sk.C06_no_shared_index
#print axioms Sk.C06_shared_data
#print axioms Sk.C06_shared_lookup_sound
#print axioms Sk.C06_resolve_worker
#print axioms Sk.C06_resolve
#print axioms Sk.C06_rets
#print axioms Sk.C06_rets_resolve
#print axioms Sk.C06_nodeadlock
#print axioms Sk.C06_nodeadlock_productive
#print axioms Sk.C06_no_alloc_error
#print axioms Sk.C06_progress_measure
#print axioms Sk.C06_measure_zero
#print axioms Sk.C06_bounded_work
#print axioms Sk.C06_finished
