/-
  SkModel.Theorems.C04Std — C04 end to end on the BYTES of a log file, with the concrete
  "YYYY-MM-DD HH:MM:SS" matcher of SkModel.StdTs in place of the timestamp oracle.

  For a log given as a list of lines (`LogLn`), the line starts of its bytes are the prefix sums
  of the line lengths, the matcher at those starts returns the written timestamps, and every
  position is within a line's length of a line boundary; hence the hypotheses of
  `C04.position_core` hold and `Spec.sincePosition` is `startOfFirst`.
-/
import SkModel.Proofs.StdFormat
import SkModel.Theorems.C04

namespace Sk

open StdLog

namespace StdLog
open Sk.C04

theorem fmtStd_no_lf (c : Civil) : 10 ∉ fmtStd c := by
  simp [fmtStd, pad2, pad4]
  omega

theorem isLF_append_left (a b : List Nat) (i : Nat) (h : i < a.length) :
    (FileV.ofBytes (a ++ b)).isLF i = (FileV.ofBytes a).isLF i := by
  simp [FileV.ofBytes, List.getElem?_append_left h]

theorem isLF_append_right (a b : List Nat) (i : Nat) :
    (FileV.ofBytes (a ++ b)).isLF (a.length + i) = (FileV.ofBytes b).isLF i := by
  simp [FileV.ofBytes, List.getElem?_append_right (Nat.le_add_right a.length i)]

def body (l : LogLn) : List Nat := (match l.t with | some c => fmtStd c | none => []) ++ l.msg

theorem bytes_eq (l : LogLn) : l.bytes = body l ++ [10] := rfl

theorem body_no_lf (l : LogLn) (h : 10 ∉ l.msg) : 10 ∉ body l := by
  unfold body
  cases l.t with
  | none => simpa using h
  | some c => simp [fmtStd_no_lf c, h]

theorem logBytes_cons (l : LogLn) (r : List LogLn) :
    logBytes (l :: r) = l.bytes ++ logBytes r := by
  simp [logBytes]

theorem isLF_bytes_end (l : LogLn) : (FileV.ofBytes l.bytes).isLF (l.bytes.length - 1) = true := by
  simp [FileV.ofBytes, bytes_eq]

theorem isLF_bytes (l : LogLn) (h : 10 ∉ body l) (i : Nat) (hi : i + 1 < l.bytes.length) :
    (FileV.ofBytes l.bytes).isLF i = false := by
  rw [bytes_eq] at hi ⊢
  have hi' : i < (body l).length := by simpa using hi
  simp only [FileV.ofBytes, List.getD_eq_getElem?_getD, List.getElem?_append_left hi',
    List.getElem?_eq_getElem hi', Option.getD_some, beq_eq_false_iff_ne]
  exact fun e => h (e ▸ List.getElem_mem hi')

/-- behind a complete line the line feeds, hence the line boundaries, are those of the rest -/
theorem isLF_before_shift (l : LogLn) (bs : List Nat) (j : Nat) :
    (FileV.ofBytes (l.bytes ++ bs)).isLF (l.bytes.length + j - 1) =
      (j = 0 || (FileV.ofBytes bs).isLF (j - 1)) := by
  have hpos : 0 < l.bytes.length := by rw [bytes_eq]; simp
  cases j with
  | zero => rw [Nat.add_zero, isLF_append_left _ _ _ (by omega), isLF_bytes_end]; rfl
  | succ j =>
    rw [show l.bytes.length + (j + 1) - 1 = l.bytes.length + j by omega, isLF_append_right]
    simp

theorem boundary_shift (l : LogLn) (bs : List Nat) (b : Nat) (h : Spec.Boundary (FileV.ofBytes bs) b) :
    Spec.Boundary (FileV.ofBytes (l.bytes ++ bs)) (l.bytes.length + b) := by
  have hpos : 0 < l.bytes.length := by rw [bytes_eq]; simp
  refine Or.inr ⟨?_, ?_⟩
  · show _ < (l.bytes ++ bs).length
    rw [List.length_append]
    rcases h with h | ⟨h, _⟩
    · omega
    · have : b - 1 < bs.length := h
      omega
  · rw [isLF_before_shift]
    rcases h with h | ⟨_, h⟩ <;> simp [h]

def starts : List LogLn → List Nat
  | [] => []
  | l :: r => 0 :: (starts r).map (· + l.bytes.length)

theorem lineStarts_cons (l : LogLn) (bs : List Nat) (h : 10 ∉ body l) :
    Spec.lineStarts (FileV.ofBytes (l.bytes ++ bs)) =
      0 :: (Spec.lineStarts (FileV.ofBytes bs)).map (· + l.bytes.length) := by
  obtain ⟨m, hm⟩ : ∃ m, l.bytes.length = m + 1 := ⟨(body l).length, by rw [bytes_eq]; simp⟩
  unfold Spec.lineStarts
  rw [show (FileV.ofBytes (l.bytes ++ bs)).len = l.bytes.length + (FileV.ofBytes bs).len by
    simp [FileV.ofBytes], List.range_add, List.filter_append, List.filter_map]
  have h1 : (List.range l.bytes.length).filter
      (fun s => s = 0 || (FileV.ofBytes (l.bytes ++ bs)).isLF (s - 1)) = [0] := by
    rw [hm, List.range_succ_eq_map, List.filter_cons, List.filter_map]
    simp only [decide_true, Bool.true_or, if_true, List.cons.injEq, true_and,
      List.map_eq_nil_iff, List.filter_eq_nil_iff, List.mem_range, Function.comp]
    intro s hs
    rw [Nat.succ_sub_one, isLF_append_left _ _ _ (by omega), isLF_bytes l h s (by omega)]
    simp
  rw [h1]
  refine congrArg (0 :: ·) ?_
  rw [List.filter_congr (q := fun j => j = 0 || (FileV.ofBytes bs).isLF (j - 1))]
  · exact List.map_congr_left fun j _ => Nat.add_comm ..
  · intro j _
    simp only [Function.comp, isLF_before_shift]
    cases j <;> simp

theorem lineStarts_log : ∀ (ls : List LogLn), (∀ l ∈ ls, 10 ∉ body l) →
    Spec.lineStarts (FileV.ofBytes (logBytes ls)) = starts ls
  | [], _ => rfl
  | l :: r, h => by
    rw [logBytes_cons, lineStarts_cons _ _ (h l (List.mem_cons_self ..)),
      lineStarts_log r fun l' hl' => h l' (List.mem_cons_of_mem _ hl')]
    rfl

theorem near_boundary (M : Nat) : ∀ (ls : List LogLn), (∀ l ∈ ls, l.bytes.length - 1 ≤ M) →
    ∀ e, e ≤ (logBytes ls).length → ∃ b, b ≤ e ∧ e - b ≤ M ∧
      Spec.Boundary (FileV.ofBytes (logBytes ls)) b
  | [], _, e, he => ⟨0, Nat.zero_le _, by simp [logBytes] at he; omega, Or.inl rfl⟩
  | l :: r, hl, e, he => by
    rw [logBytes_cons] at he ⊢
    by_cases h : e < l.bytes.length
    · exact ⟨0, Nat.zero_le _, by have := hl l (List.mem_cons_self ..); omega, Or.inl rfl⟩
    · obtain ⟨e', rfl⟩ : ∃ e', e = l.bytes.length + e' := ⟨e - l.bytes.length, by omega⟩
      rw [List.length_append, Nat.add_le_add_iff_left] at he
      obtain ⟨b, h1, h2, h3⟩ :=
        near_boundary M r (fun l' hl' => hl l' (List.mem_cons_of_mem _ hl')) e' he
      exact ⟨l.bytes.length + b, Nat.add_le_add_left h1 _, by rwa [Nat.add_sub_add_left],
        boundary_shift l _ b h3⟩

theorem scansExact_log (K : SeekK) (hH : 0 < K.H) (hE : 0 < K.EXP) (ls : List LogLn)
    (hshort : ∀ l ∈ ls, l.bytes.length - 1 ≤ (K.EXP - 1) * K.H) :
    ScansExact K (FileV.ofBytes (logBytes ls)) :=
  scansExact_of_short K hH hE _ fun o ho => by
    have hle := Spec.le_lineEnd _ o ho
    obtain ⟨b, h1, h2, h3⟩ := near_boundary _ ls hshort _ hle.2
    have := Spec.boundary_le_lineStart _ b _ h3 h1
    rw [Spec.lineStart_lineEnd _ o ho] at this
    omega

def tsOf (l : LogLn) : Option Int := l.t.map Civil.toSeconds

def LineOk (W : Nat) (l : LogLn) : Prop :=
  (∀ c, l.t = some c → c.valid = true) ∧
  (l.t = none → ∀ rest, parseStd ((l.msg ++ 10 :: rest).take W) = none)

theorem stdTs_shift (a b : List Nat) (W s : Nat) :
    stdTs (a ++ b) W (s + a.length) = stdTs b W s := by
  unfold stdTs
  rw [Nat.add_comm, ← List.drop_drop, List.drop_left]

theorem stdTs_head (W : Nat) (hW : 19 ≤ W) (l : LogLn) (hok : LineOk W l) (rest : List Nat) :
    stdTs (l.bytes ++ rest) W 0 = tsOf l := by
  unfold tsOf
  cases ht : l.t with
  | some c =>
    rw [show l.bytes ++ rest = [] ++ fmtStd c ++ (l.msg ++ 10 :: rest) by simp [LogLn.bytes, ht]]
    exact stdTs_fmtStd c (hok.1 c ht) [] _ W hW
  | none =>
    rw [show l.bytes ++ rest = l.msg ++ 10 :: rest by simp [LogLn.bytes, ht]]
    unfold stdTs
    rw [List.drop_zero, hok.2 ht rest]
    rfl

theorem map_ts (W : Nat) (hW : 19 ≤ W) : ∀ (ls : List LogLn), (∀ l ∈ ls, LineOk W l) →
    (starts ls).map (stdTs (logBytes ls) W) = ls.map tsOf
  | [], _ => rfl
  | l :: r, h => by
    rw [logBytes_cons, starts, List.map_cons, List.map_cons, List.map_map,
      stdTs_head W hW l (h l (List.mem_cons_self ..)),
      ← map_ts W hW r fun l' hl' => h l' (List.mem_cons_of_mem _ hl')]
    exact congrArg _ (List.map_congr_left fun s _ => stdTs_shift ..)

theorem find_ts (W : Nat) (hW : 19 ≤ W) (since : Int) : ∀ (ls : List LogLn),
    (∀ l ∈ ls, LineOk W l) →
    (starts ls).find? (inWin (stdTs (logBytes ls) W) since) = startOfFirstGo ls since
  | [], _ => rfl
  | l :: r, h => by
    have hsh : inWin (stdTs (l.bytes ++ logBytes r) W) since ∘ (· + l.bytes.length)
        = inWin (stdTs (logBytes r) W) since :=
      funext fun s => by simp only [Function.comp, inWin, stdTs_shift]
    rw [logBytes_cons, starts, List.find?_cons, List.find?_map, hsh,
      find_ts W hW since r fun l' hl' => h l' (List.mem_cons_of_mem _ hl'), startOfFirstGo]
    unfold inWin
    rw [stdTs_head W hW l (h l (List.mem_cons_self ..))]
    unfold tsOf
    cases l.t with
    | none => rfl
    | some c => by_cases hc : c.toSeconds ≥ since <;> simp [hc]

theorem run_take_succ (os : List (Option Int)) (k : Nat) (o : Option Int) (h : os[k]? = some o) :
    (os.take (k + 1)).foldl runStep (0, 0) = runStep ((os.take k).foldl runStep (0, 0)) o := by
  rw [List.take_add_one, h, List.foldl_append]
  rfl

/-- a run of `n` undated lines is counted -/
theorem le_run (os : List (Option Int)) (i n : Nat)
    (h : ∀ j, i ≤ j → j < i + n → os[j]? = some none) : n ≤ (os.foldl runStep (0, 0)).2 := by
  have h1 : n ≤ ((os.take (i + n)).foldl runStep (0, 0)).1 := by
    induction n with
    | zero => exact Nat.zero_le _
    | succ n ih =>
      rw [← Nat.add_assoc, run_take_succ os (i + n) none (h _ (by omega) (by omega))]
      exact Nat.succ_le_succ (ih fun j a b => h j a (by omega))
  have h2 := run_prefix_le (os.take (i + n)) (os.drop (i + n))
  rw [List.take_append_drop] at h2
  omega

/-- and the count is the length of some run of undated lines -/
theorem run_bound (os : List (Option Int)) (A : Nat)
    (hruns : ∀ i n, (∀ j, i ≤ j → j < i + n → os[j]? = some none) → n + 1 ≤ A) :
    (os.foldl runStep (0, 0)).2 + 1 ≤ A := by
  -- after `k` lines the running count is the length of a run that ends there
  have inv : ∀ k, k ≤ os.length → ∀ acc, (os.take k).foldl runStep (0, 0) = acc →
      acc.2 + 1 ≤ A ∧ acc.1 ≤ k ∧ ∀ j, k - acc.1 ≤ j → j < k → os[j]? = some none := by
    intro k
    induction k with
    | zero =>
      intro _ acc e
      rw [← e]
      exact ⟨hruns 0 0 fun j a b => by omega, Nat.le_refl _, fun j a b => by omega⟩
    | succ k ih =>
      intro hk acc e
      obtain ⟨h1, h2, h3⟩ := ih (by omega) _ rfl
      rw [run_take_succ os k os[k] (List.getElem?_eq_getElem (by omega))] at e
      rw [← e]
      cases ho : os[k] with
      | some d => exact ⟨h1, Nat.zero_le _, fun j a b => by simp [runStep] at a; omega⟩
      | none =>
        simp only [runStep, Option.isSome_none, Bool.false_eq_true, if_false]
        have hrun : ∀ j, k - ((os.take k).foldl runStep (0, 0)).1 ≤ j → j < k + 1 →
            os[j]? = some none := fun j a b =>
          if hj : j < k then h3 j a hj
          else by rw [show j = k by omega, List.getElem?_eq_getElem (by omega), ho]
        have := hruns _ (((os.take k).foldl runStep (0, 0)).1 + 1) fun j a b =>
          hrun j a (by omega)
        exact ⟨by omega, by omega, fun j a b => hrun j (by omega) b⟩
  have := (inv os.length (Nat.le_refl _) _ rfl).1
  rwa [List.take_length] at this

theorem undated_iff (ls : List LogLn) (j : Nat) :
    (ls.map tsOf)[j]? = some none ↔ ∃ l, ls[j]? = some l ∧ l.t = none := by
  rw [List.getElem?_map]
  cases ls[j]? <;> simp [tsOf]

def maxUndatedRun (ls : List LogLn) : Nat := ((ls.map tsOf).foldl runStep (0, 0)).2

/-- the hypothesis `hruns` of `C04_std_log_undated` from an executable check -/
theorem hruns_of_check (ls : List LogLn) (A : Nat) (h : maxUndatedRun ls + 1 ≤ A) :
    ∀ i n, (∀ j, i ≤ j → j < i + n → ∃ l, ls[j]? = some l ∧ l.t = none) → n + 1 ≤ A :=
  fun i n hr => Nat.le_trans
    (Nat.succ_le_succ (le_run _ i n fun j h1 h2 => (undated_iff ls j).2 (hr j h1 h2))) h

theorem parseStd_nil : parseStd [] = none := rfl

theorem parseStd_nondigit (b : Nat) (r : List Nat) (h : isDigitB b = false) :
    parseStd (b :: r) = none := by
  have : takeDigits 4 (b :: r) = none := by simp [takeDigits, h]
  unfold parseStd
  rw [this]
  rfl

theorem tsOk_std (bs : List Nat) (W : Nat) : TsOk (FileV.ofBytes bs) (stdTs bs W) := by
  refine ⟨fun s hs hlf => ?_, ?_⟩
  · have hs1 : s < bs.length := hs.1
    have hd : bs.drop s = 10 :: bs.drop (s + 1) := by
      rw [List.drop_eq_getElem_cons hs1]
      congr 1
      simpa [FileV.ofBytes, List.getElem?_eq_getElem hs1] using hlf
    unfold stdTs
    rw [hd]
    cases W with
    | zero => rfl
    | succ W => rw [List.take_succ_cons, parseStd_nondigit 10 _ rfl]
  · unfold stdTs
    rw [show bs.drop (FileV.ofBytes bs).len = [] from List.drop_length, List.take_nil]
    rfl

end StdLog

/-- END-TO-END with undated lines (continuation lines, blank lines, banners) mixed in: an undated
    line is one whose window does not parse whatever follows it; runs of them must be shorter
    than the seeker's fallback limit -/
theorem C04_std_log_undated (K : SeekK) (hH : 0 < K.H) (hE : 0 < K.EXP)
    (W : Nat) (hW : 19 ≤ W) (ls : List LogLn)
    (hvalid : ∀ l ∈ ls, ∀ c, l.t = some c → c.valid = true)
    (hund : ∀ l ∈ ls, l.t = none → ∀ rest, parseStd ((l.msg ++ 10 :: rest).take W) = none)
    (hmsg : ∀ l ∈ ls, 10 ∉ l.msg)
    (hshort : ∀ l ∈ ls, l.bytes.length - 1 ≤ (K.EXP - 1) * K.H)
    (hruns : ∀ i n, (∀ j, i ≤ j → j < i + n → ∃ l, ls[j]? = some l ∧ l.t = none) → n + 1 ≤ K.ATT)
    (hmono : (ls.filterMap (fun l => l.t.map Civil.toSeconds)).Pairwise (· ≤ ·))
    (since : Int) :
    applyToFile K (FileV.ofBytes (logBytes ls)) (stdTs (logBytes ls) W) since
      = .ok (startOfFirst ls since) := by
  have hok : ∀ l ∈ ls, LineOk W l := fun l hl => ⟨hvalid l hl, hund l hl⟩
  have hLS := lineStarts_log ls fun l hl => body_no_lf l (hmsg l hl)
  have hmap := map_ts W hW ls hok
  rw [C04.position_core (scansExact_log K hH hE ls hshort) (tsOk_std _ _) ?_ ?_ since]
  · -- the specification, read off the list of lines
    have hany : ((starts ls).any fun s => (stdTs (logBytes ls) W s).isSome) =
        ls.any (·.t.isSome) := by
      have := congrArg (List.any · Option.isSome) hmap
      simp only [List.any_map] at this
      rw [show (fun l : LogLn => l.t.isSome) = Option.isSome ∘ tsOf from
        funext fun l => by simp [tsOf]]
      exact this
    unfold Spec.sincePosition startOfFirst Spec.anyDated
    rw [C04.firstInWindow_eq, hLS, find_ts W hW since ls hok, hany]
    rfl
  · refine C04.sorted_filterMap _ _ (C04.lineStarts_sorted _) ?_
    rw [hLS, show (starts ls).filterMap (stdTs (logBytes ls) W) = ls.filterMap tsOf from
      (List.filterMap_map (g := id)).symm.trans
        ((congrArg (List.filterMap id) hmap).trans List.filterMap_map)]
    exact hmono
  · rw [C04.longestUndatedRun_eq, hLS, hmap]
    exact run_bound _ _ fun i n h => hruns i n fun j a b => (undated_iff ls j).1 (h j a b)

/-- END-TO-END, every line dated: for a log whose lines all start with a valid timestamp, in
    non-decreasing order, none longer than the seeker's limit, the since constraint positions the
    file exactly at the first line at or after `since` (end of file if there is none) -/
theorem C04_std_log (K : SeekK) (hH : 0 < K.H) (hE : 0 < K.EXP) (hA : 1 ≤ K.ATT)
    (W : Nat) (hW : 19 ≤ W) (ls : List LogLn)
    (hdated : ∀ l ∈ ls, ∃ c, l.t = some c ∧ c.valid = true)
    (hmsg : ∀ l ∈ ls, 10 ∉ l.msg)
    (hshort : ∀ l ∈ ls, 19 + l.msg.length ≤ (K.EXP - 1) * K.H)
    (hmono : (ls.filterMap (fun l => l.t.map Civil.toSeconds)).Pairwise (· ≤ ·))
    (since : Int) :
    applyToFile K (FileV.ofBytes (logBytes ls)) (stdTs (logBytes ls) W) since
      = .ok (startOfFirst ls since) := by
  apply C04_std_log_undated K hH hE W hW ls ?_ ?_ hmsg ?_ ?_ hmono since
  · intro l hl c hc
    obtain ⟨c', h1, h2⟩ := hdated l hl
    rw [h1] at hc; cases hc; exact h2
  · intro l hl hn
    obtain ⟨c', h1, _⟩ := hdated l hl
    rw [h1] at hn; cases hn
  · intro l hl
    obtain ⟨c', h1, _⟩ := hdated l hl
    have : l.bytes.length = 19 + l.msg.length + 1 := by
      simp [LogLn.bytes, h1, StdLog.fmtStd_length]; omega
    have := hshort l hl
    omega
  · intro i n h
    cases n with
    | zero => omega
    | succ n =>
      obtain ⟨l, h1, h2⟩ := h i (Nat.le_refl _) (by omega)
      obtain ⟨c', h3, _⟩ := hdated l (List.mem_of_getElem? h1)
      rw [h3] at h2; cases h2

namespace StdLog

/-- sufficient for the hypothesis `hund` of `C04_std_log_undated`: the message is empty or
    starts with a byte that is not a digit (continuation lines, blank lines, banners) -/
theorem hund_of_nondigit (W : Nat) (msg : List Nat) (h : ∀ b ∈ msg.head?, isDigitB b = false)
    (rest : List Nat) : parseStd ((msg ++ 10 :: rest).take W) = none := by
  cases W with
  | zero => simp [parseStd_nil]
  | succ W =>
    cases msg with
    | nil => rw [List.nil_append, List.take_succ_cons, parseStd_nondigit 10 _ rfl]
    | cons b m =>
      rw [List.cons_append, List.take_succ_cons]
      exact parseStd_nondigit b _ (h b (by simp))

/-- H = 4, EXP = 16 (lines up to 60 bytes), ATT = 3 -/
def exK : SeekK := ⟨4, 16, 3⟩

/-- "2024-01-15 10:00:00 a", "2024-01-15 10:00:05 b", "2024-01-15 11:30:00 c": 66 bytes, lines
    start at 0, 22, 44 -/
def exLog : List LogLn :=
  [⟨some ⟨2024, 1, 15, 10, 0, 0⟩, [32, 97]⟩,
   ⟨some ⟨2024, 1, 15, 10, 0, 5⟩, [32, 98]⟩,
   ⟨some ⟨2024, 1, 15, 11, 30, 0⟩, [32, 99]⟩]

example : (⟨2024, 1, 15, 10, 0, 5⟩ : Civil).toSeconds = 63840996005 := by decide

theorem exLog_dated : ∀ l ∈ exLog, ∃ c, l.t = some c ∧ c.valid = true := by
  intro l hl
  simp only [exLog, List.mem_cons, List.not_mem_nil, or_false] at hl
  rcases hl with rfl | rfl | rfl <;> exact ⟨_, rfl, by decide⟩

theorem exLog_position (since : Int) :
    applyToFile exK (FileV.ofBytes (logBytes exLog)) (stdTs (logBytes exLog) 64) since
      = .ok (startOfFirst exLog since) :=
  C04_std_log exK (by decide) (by decide) (by decide) 64 (by decide) exLog exLog_dated
    (by decide) (by decide) (by decide) since

example (since : Int) :
    applyToFile exK (FileV.ofBytes (logBytes exLog)) (stdTs (logBytes exLog) 64) since
      = .ok (startOfFirst exLog since) := exLog_position since

/-- its instances for a `since` equal to the second timestamp, between the second and third,
    before all, after all; `startOfFirst` is evaluated -/
example : applyToFile exK (FileV.ofBytes (logBytes exLog)) (stdTs (logBytes exLog) 64)
    63840996005 = .ok 22 := exLog_position _
example : applyToFile exK (FileV.ofBytes (logBytes exLog)) (stdTs (logBytes exLog) 64)
    63840996006 = .ok 44 := exLog_position _
example : applyToFile exK (FileV.ofBytes (logBytes exLog)) (stdTs (logBytes exLog) 64)
    0 = .ok 0 := exLog_position _
example : applyToFile exK (FileV.ofBytes (logBytes exLog)) (stdTs (logBytes exLog) 64)
    63900000000 = .ok 66 := exLog_position _
example : startOfFirst exLog 63840996005 = 22 := by decide
example : startOfFirst exLog 63900000000 = 66 := by decide

/-- with undated lines: "2024-01-15 10:00:00 a", "  at" (continuation), "" (blank),
    "2024-01-15 10:00:05 b", "2024-01-15 11:30:00 c": lines start at 0, 22, 27, 28, 50;
    72 bytes -/
def exLogU : List LogLn :=
  [⟨some ⟨2024, 1, 15, 10, 0, 0⟩, [32, 97]⟩,
   ⟨none, [32, 32, 97, 116]⟩,
   ⟨none, []⟩,
   ⟨some ⟨2024, 1, 15, 10, 0, 5⟩, [32, 98]⟩,
   ⟨some ⟨2024, 1, 15, 11, 30, 0⟩, [32, 99]⟩]

theorem exLogU_valid : ∀ l ∈ exLogU, ∀ c, l.t = some c → c.valid = true := by
  intro l hl c hc
  simp only [exLogU, List.mem_cons, List.not_mem_nil, or_false] at hl
  rcases hl with rfl | rfl | rfl | rfl | rfl <;> cases hc <;> decide

theorem exLogU_und : ∀ l ∈ exLogU, l.t = none →
    ∀ rest, parseStd ((l.msg ++ 10 :: rest).take 64) = none := by
  intro l hl _ rest
  apply hund_of_nondigit
  simp only [exLogU, List.mem_cons, List.not_mem_nil, or_false] at hl
  rcases hl with rfl | rfl | rfl | rfl | rfl <;> decide

theorem exLogU_runs : ∀ i n,
    (∀ j, i ≤ j → j < i + n → ∃ l, exLogU[j]? = some l ∧ l.t = none) → n + 1 ≤ exK.ATT :=
  hruns_of_check exLogU exK.ATT (by decide)

theorem exLogU_position (since : Int) :
    applyToFile exK (FileV.ofBytes (logBytes exLogU)) (stdTs (logBytes exLogU) 64) since
      = .ok (startOfFirst exLogU since) :=
  C04_std_log_undated exK (by decide) (by decide) 64 (by decide) exLogU exLogU_valid exLogU_und
    (by decide) (by decide) exLogU_runs (by decide) since

example (since : Int) :
    applyToFile exK (FileV.ofBytes (logBytes exLogU)) (stdTs (logBytes exLogU) 64) since
      = .ok (startOfFirst exLogU since) := exLogU_position since

/-- its instances for a `since` equal to the timestamp of the line after the undated run,
    and a `since` before / after everything -/
example : applyToFile exK (FileV.ofBytes (logBytes exLogU)) (stdTs (logBytes exLogU) 64)
    63840996005 = .ok 28 := exLogU_position _
example : applyToFile exK (FileV.ofBytes (logBytes exLogU)) (stdTs (logBytes exLogU) 64)
    63840996006 = .ok 50 := exLogU_position _
example : applyToFile exK (FileV.ofBytes (logBytes exLogU)) (stdTs (logBytes exLogU) 64)
    0 = .ok 0 := exLogU_position _
example : applyToFile exK (FileV.ofBytes (logBytes exLogU)) (stdTs (logBytes exLogU) 64)
    63900000000 = .ok 72 := exLogU_position _
example : startOfFirst exLogU 63840996005 = 28 := by decide

/-- the reader: what was written is read back, and an impossible date is no timestamp -/
example : parseStd (fmtStd ⟨2024, 2, 29, 23, 59, 59⟩ ++ [32, 120]) = some ⟨2024, 2, 29, 23, 59, 59⟩ := by
  decide
example : stdTs (fmtStd ⟨2023, 2, 29, 0, 0, 0⟩ ++ [10]) 64 0 = none := by decide

end StdLog

end Sk

#print axioms Sk.C04_std_log
#print axioms Sk.C04_std_log_undated
