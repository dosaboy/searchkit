/-
  C07 — a search that carries its own since constraint(s) is active from the first
  line whose timestamp satisfies all of its constraints: earlier lines (dated or not)
  are not searched by it, every later line is (dated or not), and what it reports is
  what the same search without constraints reports for the lines from there on.
  Other searches registered on the same file are unaffected.

  The statement is proved for *homogeneous* constraint sets (on every line all
  constraints are undecidable or none is: a single constraint, or several constraints
  sharing one timestamp matcher).  `C07_hetero_witness` shows the model (hence the
  code) deviates for heterogeneous sets.
-/
import SkModel.Proofs.Gate
import SkModel.Proofs.TaskProj

namespace Sk

open Gate

/-- C07, core: a constrained definition with a homogeneous constraint set behaves
    exactly like the same definition without constraints run on the lines from the
    activation line on (on no line at all if there is no activation line) — same simple
    results, same sequence state, same error.  The states agree up to `runnable` only: with no
    activation line the gated run ends with it `false`, the other has it `true` throughout. -/
theorem C07_gate_solo (d : Def) (hne : d.cons ≠ []) (n : Nat)
    (hom : Spec.homogeneous d.cons n = true) :
    let a := (Spec.activation d.cons n).getD n
    (∀ stF out, soloLoop d (DSt.init d) (List.range n) = .ok (stF, out) →
       ∃ stU, soloLoop d.unconstrained (DSt.init d.unconstrained) (List.range' a (n - a)) = .ok (stU, out)
              ∧ stU.core = stF.core) ∧
    (∀ e, soloLoop d (DSt.init d) (List.range n) = .error e →
       soloLoop d.unconstrained (DSt.init d.unconstrained) (List.range' a (n - a)) = .error e) := by
  have heq := solo_gate_eq d hne n hom
  cases hact : Spec.activation d.cons n with
  | none =>
    rw [hact] at heq
    simp only [Option.getD_none, Nat.sub_self, List.range'_zero, heq]
    exact ⟨fun stF out h => by cases h; exact ⟨_, rfl, rfl⟩, fun e h => nomatch h⟩
  | some a =>
    rw [hact] at heq
    simp only [Option.getD_some, heq]
    exact ⟨fun stF out h => ⟨stF, h, rfl⟩, fun e h => h⟩

/-- end-of-file processing only reads the kind, the id and the core of the state -/
theorem C07_eof_core (n : Nat) (d : Def) (stF stU : DSt) (h : stU.core = stF.core) :
    eofDef n d stF = eofDef n d.unconstrained stU := by
  simp only [DSt.core, Prod.mk.injEq] at h
  obtain ⟨h1, _, h3, h4, _⟩ := h
  unfold eofDef
  simp only [Def.unconstrained, h1, h3, h4]

/-- C07 for single-line searches: the results reported for a search with (homogeneous)
    constraints are exactly the specification's results on the lines from the
    activation line on. -/
theorem C07_gate_exact_simple (t : TaskIn) (hwf : DefsWF t.defs) (d : Def) (sd : SDef)
    (hd : d ∈ t.defs) (hk : d.kind = .simple sd) (hne : d.cons ≠ [])
    (hom : Spec.homogeneous d.cons t.n = true)
    (rs : List Res) (st : Stats) (hrun : runTask t = .ok (rs, st)) :
    (rs.filter (fun r => r.src == d.id)).map (fun r => (r.ln, r.iter)) =
      (Spec.simple sd t.n).filter (fun p => decide ((Spec.activation d.cons t.n).getD t.n < p.1)) := by
  obtain ⟨stF, out, fin, h1, h2, h3⟩ := runTask_proj t hwf d hd rs st hrun
  have hf := eofDef_simple hk h2
  subst hf
  obtain ⟨stU, hU, _⟩ := (C07_gate_solo d hne t.n hom).1 stF out h1
  rw [h3, List.append_nil, spec_from sd _ _ (activation_getD_le d.cons t.n)]
  have hk' : d.unconstrained.kind = .simple sd := hk
  exact (soloLoop_simple hk' (by simp [DSt.init, Def.unconstrained]) hU).1

/-- C07 for sequence searches: what is reported for `d` is what the unconstrained definition,
    run alone (`soloLoop`, then `eofDef`) on the lines from the activation line on, reports.
    The conclusion is this solo run; it does not go on to `Spec.sections`, since
    `seq_solo_spec_sorted` is stated for a run from line 0. -/
theorem C07_gate_exact_seq (t : TaskIn) (hwf : DefsWF t.defs) (d : Def) (s : SeqDef)
    (hd : d ∈ t.defs) (hk : d.kind = .seq s) (hne : d.cons ≠ [])
    (hom : Spec.homogeneous d.cons t.n = true)
    (rs : List Res) (st : Stats) (hrun : runTask t = .ok (rs, st)) :
    let a := (Spec.activation d.cons t.n).getD t.n
    ∃ stU fin, soloLoop d.unconstrained (DSt.init d.unconstrained) (List.range' a (t.n - a)) = .ok (stU, [])
      ∧ eofDef t.n d.unconstrained stU = .ok fin ∧ rs.filter (fun r => r.src == d.id) = fin := by
  obtain ⟨stF, out, fin, h1, h2, h3⟩ := runTask_proj t hwf d hd rs st hrun
  have ho := soloLoop_seq_out hk h1
  subst ho
  obtain ⟨stU, hU, hc⟩ := (C07_gate_solo d hne t.n hom).1 stF [] h1
  refine ⟨stU, fin, hU, ?_, ?_⟩
  · rw [← C07_eof_core t.n d stF stU hc]; exact h2
  · simpa using h3

/-- C07, independence: what is reported for a search does not depend on which other
    searches (constrained or not) are registered on the same file. -/
theorem C07_independent (t1 t2 : TaskIn) (hn : t1.n = t2.n)
    (hwf1 : DefsWF t1.defs) (hwf2 : DefsWF t2.defs) (d : Def) (hd1 : d ∈ t1.defs) (hd2 : d ∈ t2.defs)
    (rs1 rs2 : List Res) (st1 st2 : Stats) (h1 : runTask t1 = .ok (rs1, st1)) (h2 : runTask t2 = .ok (rs2, st2)) :
    rs1.filter (fun r => r.src == d.id) = rs2.filter (fun r => r.src == d.id) := by
  obtain ⟨stF, out, fin, a1, a2, a3⟩ := runTask_proj t1 hwf1 d hd1 rs1 st1 h1
  obtain ⟨stF', out', fin', b1, b2, b3⟩ := runTask_proj t2 hwf2 d hd2 rs2 st2 h2
  rw [hn] at a1 a2
  rw [a1] at b1
  cases b1
  rw [a2] at b2
  cases b2
  rw [a3, b3]

namespace C07Ex

def sdAll : SDef := { pats := [fun _ => some ⟨"x", []⟩] }

def dHet : Def :=
  { id := 1, kind := .simple sdAll,
    cons := [fun _ => .pass, fun i => if i = 0 then .undec else .pass] }

def tHet : TaskIn := { n := 2, dec := fun _ => true, defs := [dHet] }

def dHom : Def :=
  { id := 1, kind := .simple sdAll,
    cons := [fun i => if i = 1 then .fail else if i = 2 then .pass else .undec] }

def tHom : TaskIn := { n := 4, dec := fun _ => true, defs := [dHom] }

theorem wf1 (d : Def) : DefsWF [d] := by
  intro a ha b hb _
  simp only [List.mem_singleton] at ha hb
  rw [ha, hb]

def lns (t : TaskIn) (id : Nat) : Option (List (Nat × List (Option Val))) :=
  match runTask t with
  | .ok (rs, _) => some ((rs.filter (fun r => r.src == id)).map (fun r => (r.ln, r.iter)))
  | .error _ => none

end C07Ex

open C07Ex in
/-- Without the homogeneity hypothesis `C07_gate_exact_simple` is false: the activation
    line of `dHet` is index 1, yet the model reports a result for line index 0
    (`ln = 1`): a line on which one constraint passes and another cannot decide is
    searched (`line_is_valid`) although the search is not yet runnable. -/
theorem C07_hetero_witness :
    Spec.homogeneous dHet.cons tHet.n = false ∧
    Spec.activation dHet.cons tHet.n = some 1 ∧
    lns tHet dHet.id = some [(1, [some "x"]), (2, [some "x"])] ∧
    (Spec.simple sdAll tHet.n).filter
        (fun p => decide ((Spec.activation dHet.cons tHet.n).getD tHet.n < p.1)) =
      [(2, [some "x"])] := by
  decide

open C07Ex in
/-- the same, in the shape of `C07_gate_exact_simple` minus `hom` -/
theorem C07_hetero_witness' : ∃ (t : TaskIn) (d : Def) (sd : SDef) (rs : List Res) (st : Stats),
    DefsWF t.defs ∧ d ∈ t.defs ∧ d.kind = .simple sd ∧ d.cons ≠ [] ∧ runTask t = .ok (rs, st) ∧
    (rs.filter (fun r => r.src == d.id)).map (fun r => (r.ln, r.iter)) ≠
      (Spec.simple sd t.n).filter (fun p => decide ((Spec.activation d.cons t.n).getD t.n < p.1)) := by
  obtain ⟨_, _, h3, h4⟩ := C07_hetero_witness
  unfold lns at h3
  cases h : runTask tHet with
  | error e => rw [h] at h3; cases h3
  | ok p =>
    obtain ⟨rs, st⟩ := p
    rw [h] at h3
    simp only [Option.some.injEq] at h3
    refine ⟨tHet, dHet, sdAll, rs, st, wf1 _, by simp [tHet], rfl, by simp [dHet], h, ?_⟩
    rw [h3, h4]
    decide

open C07Ex in
/-- non-vacuity of `C07_gate_exact_simple`: undated, too old, pass, undated →
    lines 3 and 4 are reported -/
example : Spec.homogeneous dHom.cons tHom.n = true ∧
    Spec.activation dHom.cons tHom.n = some 2 ∧
    lns tHom dHom.id = some [(3, [some "x"]), (4, [some "x"])] ∧
    (Spec.simple sdAll tHom.n).filter
        (fun p => decide ((Spec.activation dHom.cons tHom.n).getD tHom.n < p.1)) =
      [(3, [some "x"]), (4, [some "x"])] := by
  decide

open C07Ex in
example : ∃ rs st, runTask tHom = .ok (rs, st) ∧ DefsWF tHom.defs ∧ dHom ∈ tHom.defs ∧
    dHom.kind = .simple sdAll ∧ dHom.cons ≠ [] ∧ Spec.homogeneous dHom.cons tHom.n = true := by
  have hok : (match runTask tHom with | .ok _ => true | .error _ => false) = true := by decide
  cases h : runTask tHom with
  | error e => rw [h] at hok; cases hok
  | ok p => exact ⟨p.1, p.2, rfl, wf1 _, by simp [tHom], rfl, by simp [dHom], by decide⟩

end Sk

#print axioms Sk.C07_gate_solo
#print axioms Sk.C07_eof_core
#print axioms Sk.C07_gate_exact_simple
#print axioms Sk.C07_gate_exact_seq
#print axioms Sk.C07_independent
#print axioms Sk.C07_hetero_witness
#print axioms Sk.C07_hetero_witness'
