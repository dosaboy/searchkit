/-
  SkModel.Theorems.C04 — the file-level since constraint leaves the file at the first
  line whose timestamp is at or after `since`.

  `applyToFile` (`SearchConstraintSearchSince.apply_to_file` driving
  `LogFileDateSinceSeeker.run`: the first-line shortcut, `bisect_left` over all byte
  offsets with `__getitem__` = "date of the nearest dated line", the exception → position
  mapping) returns exactly `Spec.sincePosition`, for every file whose dated lines are in
  time order, whose runs of undated lines are below the fallback limit and whose lines
  are within the searchable length, and every oracle that dates no empty line and not the
  position `len`.
-/
import SkModel.Theorems.C11
import SkModel.Proofs.SeekGov
import SkModel.Proofs.Seek4Spec

namespace Sk
open Sk.C04 Sk.SeekL1

/-- the hypotheses H1 .. H4 of `C04_position`.  The harness does not test these: per generated
    case it tests the weaker hypotheses of `C04_position_tight`, which these imply (the
    driver reports `emptyUndated` and `endUndated`, the part of `tsShape` the proof uses, not
    `tsShape` itself). -/
structure C04Hyps (K : SeekK) (F : FileV) (ts : Nat → Option Int) : Prop where
  /-- H1: timestamps of dated lines are non-decreasing -/
  mono : ∀ s1 ∈ Spec.lineStarts F, ∀ s2 ∈ Spec.lineStarts F, s1 ≤ s2 →
           ∀ d1 d2, ts s1 = some d1 → ts s2 = some d2 → d1 ≤ d2
  /-- H2: undated lines come in runs well below the fallback limit -/
  runs : 2 * Spec.longestUndatedRun F ts + 4 ≤ K.ATT
  /-- H3: every line is within the searchable length -/
  short : Spec.longestLine F ≤ (K.EXP - 1) * K.H
  /-- H4: a timestamp needs a first byte that is inside the file and is not a line feed
      (so empty lines and the position `len` are undated) -/
  tsShape : ∀ o d, ts o = some d → o < F.len ∧ F.isLF o = false

namespace C04

theorem scansExact_of_short (K : SeekK) (hH : 0 < K.H) (hE : 0 < K.EXP) (F : FileV)
    (hS : ∀ o, o ≤ F.len → Spec.lineEnd F o - Spec.lineStart F o ≤ (K.EXP - 1) * K.H) :
    ScansExact K F :=
  fun o ho => ⟨findToken_short K hH hE F o ho (hS o ho),
    findTokenReverse_short K hH hE F o ho (hS o ho)⟩

theorem scansExact_of_longestLine (K : SeekK) (hH : 0 < K.H) (hE : 0 < K.EXP) (F : FileV)
    (hS : Spec.longestLine F ≤ (K.EXP - 1) * K.H) : ScansExact K F :=
  scansExact_of_short K hH hE F fun o ho => Nat.le_trans (short_line F o ho) hS

/-- `getItem_gov_of_exact` (the form the proofs use) with `ScansExact` discharged from the longest
    line -/
theorem getItem_gov (K : SeekK) (hH : 0 < K.H) (hE : 0 < K.EXP) (F : FileV)
    (ts : Nat → Option Int)
    (hS : Spec.longestLine F ≤ (K.EXP - 1) * K.H)
    (hT : TsOk F ts)
    (hR : Spec.longestUndatedRun F ts + 1 ≤ K.ATT) (off : Nat) (ho : off < F.len) :
    (getItem K F ts off = .error .tooManyUndated ∧ Und F ts 0 F.len) ∨
    (∃ (l : LLine) (d : Nat), getItem K F ts off = .ok l ∧ l.startOffset = (d : Int) ∧
      Gov F ts off d) :=
  getItem_gov_of_exact (scansExact_of_longestLine K hH hE F hS) hT hR off ho

variable {K : SeekK} {F : FileV} {ts : Nat → Option Int}

/-- the probe at an offset, its line start and its date -/
def gOf (K : SeekK) (F : FileV) (ts : Nat → Option Int) (off : Nat) : LLine :=
  match getItem K F ts off with
  | .ok l => l
  | .error _ => default

def dOf (K : SeekK) (F : FileV) (ts : Nat → Option Int) (off : Nat) : Nat :=
  (gOf K F ts off).startOffset.toNat

def aOf (K : SeekK) (F : FileV) (ts : Nat → Option Int) (off : Nat) : Int :=
  (ts (dOf K F ts off)).getD 0

/-- C04 relative to exact scans, with the weakest run bound the proof needs:
    `longestUndatedRun + 1 ≤ ATT` -/
theorem position_core (hX : ScansExact K F) (hT : TsOk F ts)
    (hM : ∀ s1 ∈ Spec.lineStarts F, ∀ s2 ∈ Spec.lineStarts F, s1 ≤ s2 →
      ∀ d1 d2, ts s1 = some d1 → ts s2 = some d2 → d1 ≤ d2)
    (hR : Spec.longestUndatedRun F ts + 1 ≤ K.ATT) (since : Int) :
    applyToFile K F ts since = .ok (Spec.sincePosition F ts since) := by
  obtain ⟨r0, h0, _⟩ := back_walk hX hT K.ATT F.len none (Nat.le_refl _) (by intro p hp; cases hp)
  by_cases hsc : ∃ d, ts 0 = some d ∧ since ≤ d
  · obtain ⟨d, hd, hge⟩ := hsc
    have h00 : IsStart F 0 := ⟨hT.lt_len hd (Nat.zero_le _), Or.inl rfl⟩
    rw [apply_shortcut h0 d hd hge,
      sincePosition_start h00 (inWin_iff.2 ⟨d, hd, hge⟩) (fun s' _ h => by omega)]
  · rw [apply_bisect h0 fun d hd => Int.not_le.1 fun h => hsc ⟨d, hd, h⟩]
    by_cases hex : ∃ s, IsStart F s ∧ (ts s).isSome = true
    · -- some line is dated: every probe succeeds, with the date of the governing line
      obtain ⟨s0, hs0, hd0⟩ := hex
      have hpr : ∀ i, i < F.len → getItem K F ts i = .ok (gOf K F ts i) ∧
          Gov F ts i (dOf K F ts i) ∧ ts (dOf K F ts i) = some (aOf K F ts i) := by
        intro i hi
        rcases getItem_gov_of_exact hX hT hR i hi with h | ⟨l, d, e1, e2, g⟩
        · exact (h.2.not_dated hs0 hd0 (Nat.zero_le _) hs0.1).elim
        · have hd : dOf K F ts i = d := by unfold dOf gOf; rw [e1]; simp only []; omega
          obtain ⟨a, ha⟩ := Option.isSome_iff_exists.1 g.2.1
          unfold aOf
          rw [hd, ha]
          exact ⟨by unfold gOf; rw [e1], g, rfl⟩
      have hg := fun i hi => (hpr i hi).1
      have hgov := fun i hi => (hpr i hi).2.1
      have hdate := fun i hi => (hpr i hi).2.2
      obtain ⟨r, st, hb, hrn, hlo, hhi, hp1, hp2⟩ :=
        bisect_run K F ts since (gOf K F ts) (aOf K F ts) hg hdate fun i j hij hj =>
          hM _ ((mem_lineStarts F _).2 (hgov i (by omega)).1) _
            ((mem_lineStarts F _).2 (hgov j hj).1)
            (gov_mono i j _ _ hij (hgov i (by omega)) (hgov j hj)) _ _ (hdate i (by omega))
            (hdate j hj)
      rw [hb]
      simp only []
      -- a line in the window governs itself, so the bisection ends at or before it
      have hwin : ∀ s, IsStart F s → inWin ts since s = true →
          (ts s).isSome = true ∧ r ≤ s := by
        intro s hs hw
        obtain ⟨dd, hdd, hge⟩ := inWin_iff.1 hw
        have hsd : (ts s).isSome = true := by simp [hdd]
        refine ⟨hsd, Nat.le_of_not_lt fun h => ?_⟩
        have := hdate s hs.1
        rw [gov_unique s _ _ (hgov s hs.1) (gov_self s hs hsd), hdd] at this
        cases this
        have := hlo s h
        omega
      by_cases hrl : r < F.len
      · have hgr := hgov r hrl
        rw [hp1 hrl]
        refine congrArg Except.ok (sincePosition_start hgr.1
          (inWin_iff.2 ⟨_, hdate r hrl, hhi r (Nat.le_refl _) hrl⟩) fun s' hs' hlt => ?_).symm
        refine Bool.eq_false_iff.2 fun hw => ?_
        obtain ⟨hsd, hle⟩ := hwin s' hs' hw
        have := gov_mono r s' _ _ hle hgr (gov_self s' hs' hsd)
        omega
      · rw [hp2 (by omega)]
        refine congrArg Except.ok (sincePosition_len hs0 hd0 fun s hs => ?_).symm
        refine Bool.eq_false_iff.2 fun hw => ?_
        have := (hwin s hs hw).2
        have := hs.1
        omega
    · -- no line is dated: the first probe raises
      have hU : Und F ts 0 F.len := fun s _ _ hs => by
        cases hd : ts s with
        | none => rfl
        | some d => exact absurd ⟨s, hs, by simp [hd]⟩ hex
      rw [sincePosition_zero hU]
      rw [bisectLoop]
      by_cases hlen : 0 < F.len
      · rcases getItem_gov_of_exact hX hT hR ((0 + F.len) / 2) (by omega) with
          ⟨e1, _⟩ | ⟨l, d, _, _, g⟩
        · simp only [if_pos hlen, e1]
        · exact absurd ⟨d, g.1, g.2.1⟩ hex
      · simp [Nat.eq_zero_of_not_pos hlen]

end C04

/-- C04: `apply_to_file` positions the file at the first line at or after `since`.  Stated under
    `C04Hyps`; the same conclusion under what the harness tests is `C04_position_tight`. -/
theorem C04_position (K : SeekK) (hH : 0 < K.H) (hE : 0 < K.EXP) (F : FileV)
    (ts : Nat → Option Int) (since : Int) (h : C04Hyps K F ts) :
    applyToFile K F ts since = .ok (Spec.sincePosition F ts since) :=
  C04.position_core (scansExact_of_longestLine K hH hE F h.short) (tsOk_of_shape F ts h.tsShape)
    h.mono (by have := h.runs; omega) since

/-- C04 under the weakest hypotheses the proof needs: H1 as the executable check
    `Spec.datedMonotone`, the fallback limit exceeding the longest undated run by one (the
    constant of `C04Hyps.runs` is generous), H3, and H4 only for what the seeker looks at:
    empty lines and the end-of-file position are undated.  These are the hypotheses the harness
    tests per generated case (`in_hyps` in `harness/vh/props/c04.py`, on the driver's `monotone`,
    `undatedRun`, `longestLine`, `emptyUndated`, `endUndated`; `in_hyps` also requires the driver's
    `windowOk`, which ties the oracle to the line and is no hypothesis of the theorem).
    `runs` is tight: with `ATT` equal to the run model and specification differ at once, e.g.
    `len = 4`, line feeds at 1 and 2, only the line at 3 dated (1), `H, EXP, ATT = 2, 3, 2`,
    `since = 1`: `applyToFile` gives 0, `Spec.sincePosition` 3. -/
theorem C04_position_tight (K : SeekK) (hH : 0 < K.H) (hE : 0 < K.EXP) (F : FileV)
    (ts : Nat → Option Int) (since : Int)
    (mono : Spec.datedMonotone F ts = true)
    (runs : Spec.longestUndatedRun F ts + 1 ≤ K.ATT)
    (short : Spec.longestLine F ≤ (K.EXP - 1) * K.H)
    (emptyUndated : ∀ s ∈ Spec.lineStarts F, F.isLF s = true → ts s = none)
    (endUndated : ts F.len = none) :
    applyToFile K F ts since = .ok (Spec.sincePosition F ts since) :=
  C04.position_core (scansExact_of_longestLine K hH hE F short)
    ⟨fun s hs => emptyUndated s ((mem_lineStarts F s).2 hs), endUndated⟩
    (mono_of_datedMonotone F ts mono) runs since

/-- what `__getitem__` returns (C04's key lemma): the governing dated line of the offset,
    or `tooManyUndated` exactly when no line of the file is dated.  The form for a reader who knows
    only `Spec.*`: under `C04Hyps`, with `Gov` and `Und` written out over `Spec.lineStarts`; the
    proofs use `C04.getItem_gov_of_exact`. -/
theorem C04_getItem (K : SeekK) (hH : 0 < K.H) (hE : 0 < K.EXP) (F : FileV)
    (ts : Nat → Option Int) (h : C04Hyps K F ts) (off : Nat) (ho : off < F.len) :
    (getItem K F ts off = .error .tooManyUndated ∧
      ∀ s ∈ Spec.lineStarts F, ts s = none) ∨
    (∃ (l : LLine) (d : Nat), getItem K F ts off = .ok l ∧ l.startOffset = (d : Int) ∧
      d ∈ Spec.lineStarts F ∧ (ts d).isSome = true ∧
      ((d ≤ Spec.lineStart F off ∧
          ∀ s ∈ Spec.lineStarts F, d < s → s ≤ Spec.lineStart F off → ts s = none) ∨
       (Spec.lineStart F off < d ∧ ∀ s ∈ Spec.lineStarts F, s < d → ts s = none))) := by
  have hm := fun s => (mem_lineStarts F s).1
  exact (getItem_gov K hH hE F ts h.short (tsOk_of_shape F ts h.tsShape)
      (by have := h.runs; omega) off ho).imp
    (fun ⟨e, hu⟩ => ⟨e, fun s hs => hu s (Nat.zero_le _) (hm s hs).1 (hm s hs)⟩)
    fun ⟨l, d, e1, e2, g1, g2, g3⟩ => ⟨l, d, e1, e2, (mem_lineStarts F d).2 g1, g2, g3.imp
      (fun ⟨a, b⟩ => ⟨a, fun s hs h1 h2 => b s (by omega) (by omega) (hm s hs)⟩)
      (fun ⟨a, b⟩ => ⟨a, fun s hs h1 => b s (Nat.zero_le _) h1 (hm s hs)⟩)⟩

namespace C04

/-- 14 bytes, five 2-byte lines, line feeds at 2, 5, 8, 11 (no final line feed):
    lines start at 0, 3, 6, 9, 12 -/
def exF : FileV := ⟨14, fun i => [2, 5, 8, 11].contains i⟩

/-- the lines at 0, 9, 12 are dated 10, 20, 30; the lines at 3 and 6 are an undated run -/
def exTs : Nat → Option Int := fun o =>
  if o = 0 then some 10 else if o = 9 then some 20 else if o = 12 then some 30 else none

/-- H = 4, EXP = 2 (lines up to 4 bytes), ATT = 8 -/
def exK : SeekK := ⟨4, 2, 8⟩

theorem exHyps : C04Hyps exK exF exTs where
  mono := mono_of_datedMonotone exF exTs (by decide)
  runs := by decide
  short := by decide
  tsShape := by
    intro o d h
    unfold exTs at h
    split at h
    · subst_vars; decide
    · split at h
      · subst_vars; decide
      · split at h
        · subst_vars; decide
        · cases h

/-- the specification: the first line dated at or after 20 starts at byte 9 -/
example : Spec.sincePosition exF exTs 20 = 9 := by decide

/-- the model, evaluated by the kernel: `since` equal to the timestamp of the line at 9,
    after the undated run -/
example : applyToFile exK exF exTs 20 = .ok 9 := by decide

example : applyToFile exK exF exTs 20 = .ok (Spec.sincePosition exF exTs 20) :=
  C04_position exK (by decide) (by decide) exF exTs 20 exHyps

/-- a date between two timestamps, a date before all and a date after all -/
example : applyToFile exK exF exTs 25 = .ok 12 := by decide
example : applyToFile exK exF exTs 5 = .ok 0 := by decide
example : applyToFile exK exF exTs 31 = .ok 14 := by decide

/-- the offsets inside the undated run are governed by the dated line before it -/
example : getItem exK exF exTs 7 = .ok ⟨.edge 0, .found 2⟩ := by decide

end C04

end Sk

#print axioms Sk.C04_position
#print axioms Sk.C04_position_tight
#print axioms Sk.C04_getItem
#print axioms Sk.C04.exHyps
