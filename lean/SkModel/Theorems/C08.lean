/-
  C08 — the results of a task do not depend on the state that the search-definition objects
  carry over from earlier runs / files: the outcome (also an error), the results, their order,
  line numbers, tags, values and the statistics are identical; only the section ids are renamed
  by an injective per-definition shift, so the grouping into sections is identical too.
-/
import SkModel.Proofs.Persist

namespace Sk
open Sk.Run

theorem C08_persist_independent (p : Nat → SeqPersist) (t : TaskIn) :
    runTaskFrom p t = (runTask t).map (fun (x : List Res × Stats) => (x.1.map (shiftSec p), x.2)) :=
  ExRel.map_eq (runTaskFrom_rel p t)

theorem C08_same_error (p : Nat → SeqPersist) (t : TaskIn) (e : Err) :
    runTaskFrom p t = .error e ↔ runTask t = .error e := by
  rw [C08_persist_independent]
  cases runTask t <;> simp [Except.map]

/-- same results up to the renaming, same statistics -/
theorem C08_same_ok (p : Nat → SeqPersist) (t : TaskIn) (rs : List Res) (st : Stats)
    (h : runTask t = .ok (rs, st)) :
    runTaskFrom p t = .ok (rs.map (shiftSec p), st) := by
  rw [C08_persist_independent, h]; rfl

/-- the renaming is injective on section ids (for arbitrary results): two results are in the same
    section after the renaming iff they were before -/
theorem C08_same_grouping (p : Nat → SeqPersist) (r1 r2 : Res) :
    (shiftSec p r1).sec = (shiftSec p r2).sec ↔ r1.sec = r2.sec := by
  refine (Option.map_injective ?_).eq_iff
  rintro ⟨a, k⟩ ⟨b, l⟩ h
  obtain ⟨rfl, h⟩ := Prod.mk.inj h
  rw [Nat.add_right_cancel h]

theorem C08_sec_none (p : Nat → SeqPersist) (r : Res) :
    (shiftSec p r).sec = none ↔ r.sec = none :=
  Option.map_eq_none_iff

/-- everything a caller can see of a result, except the opaque section id, is unchanged -/
theorem C08_views (p : Nat → SeqPersist) (r : Res) :
    (shiftSec p r).ln = r.ln ∧ (shiftSec p r).tag = r.tag ∧ (shiftSec p r).parts = r.parts ∧
      (shiftSec p r).seqId = r.seqId ∧ (shiftSec p r).src = r.src ∧
      (shiftSec p r).fields = r.fields :=
  ⟨rfl, rfl, rfl, rfl, rfl, rfl⟩

/-- with no carried state (all counters zero) the renaming is the identity -/
theorem C08_fresh (p : Nat → SeqPersist) (h : ∀ id, (p id).cnt = 0) (r : Res) : shiftSec p r = r := by
  cases r with
  | mk src ln tag seqId sec parts fields =>
    cases sec with
    | none => rfl
    | some a => simp [shiftSec, h]

namespace C08

private def mt (v : String) : Option Match := some ⟨v, []⟩

def exSeq : Def :=
  { id := 3, kind := .seq
      { start := { pats := [fun i => if i = 0 then mt "S" else none] },
        body := some { pats := [fun i => if i = 1 then mt "B" else none] },
        end_ := some { pats := [fun i => if i = 2 then mt "E" else none] },
        tag := "t" } }

def exTask : TaskIn := { n := 3, dec := fun _ => true, defs := [exSeq] }

/-- the object was left inside a section by an earlier file, having drawn 5 ids -/
def exPersist : Nat → SeqPersist := fun id =>
  if id = 3 then { started := true, cnt := 5, sec := 4 } else {}

/-- what a caller sees of a result -/
structure View where
  ln : Nat
  tag : Option String
  seqId : Option Nat
  vals : List (Option Val)
deriving DecidableEq, Repr

def view (r : Res) : View := ⟨r.ln, r.tag, r.seqId, r.parts.map (·.val)⟩

def exViews : List View :=
  [⟨1, some "t-start", some 3, [some "S"]⟩, ⟨2, some "t-body", some 3, [some "B"]⟩,
   ⟨3, some "t-end", some 3, [some "E"]⟩]

example : (runTask exTask).toOption.map (fun x => x.1.map view) = some exViews := by decide
example : (runTask exTask).toOption.map (fun x => x.1.map (·.sec)) =
    some [some (3, 0), some (3, 0), some (3, 0)] := by decide
example : (runTask exTask).toOption.map (·.2) = some { lines := 3, results := 3 } := by decide

/-- carried state: the same views and statistics, the section id shifted by 5 -/
example : (runTaskFrom exPersist exTask).toOption.map (fun x => x.1.map view) = some exViews := by
  decide
example : (runTaskFrom exPersist exTask).toOption.map (fun x => x.1.map (·.sec)) =
    some [some (3, 5), some (3, 5), some (3, 5)] := by decide
example : (runTaskFrom exPersist exTask).toOption.map (·.2) = some { lines := 3, results := 3 } := by
  decide

def exSeq2 : Def :=
  { id := 3, kind := .seq
      { start := { pats := [fun i => if i = 0 ∨ i = 2 then mt "S" else none] },
        end_ := some { pats := [fun i => if i = 1 then mt "E" else none], emptyRes := mt "" },
        tag := "t" } }

def exTask2 : TaskIn := { n := 3, dec := fun _ => true, defs := [exSeq2, exSeq2] }

example : (runTask exTask2).toOption.map (fun x => x.1.map (·.sec)) =
    some [some (3, 0), some (3, 0), some (3, 2), some (3, 2)] := by decide
example : (runTaskFrom exPersist exTask2).toOption.map (fun x => x.1.map (·.sec)) =
    some [some (3, 5), some (3, 5), some (3, 7), some (3, 7)] := by decide
example : (runTaskFrom exPersist exTask2).toOption.map (fun x => x.1.map view) =
    (runTask exTask2).toOption.map (fun x => x.1.map view) := by decide

end C08

end Sk

#print axioms Sk.C08_persist_independent
#print axioms Sk.C08_same_error
#print axioms Sk.C08_same_ok
#print axioms Sk.C08_same_grouping
#print axioms Sk.C08_sec_none
#print axioms Sk.C08_views
#print axioms Sk.C08_fresh
