/-
  C01 — a single-line search without constraints reports exactly one result per
  matching line, ascending, 1-based, carrying the prescribed values, whatever other
  searches are registered.
-/
import SkModel.Proofs.TaskProj
import SkModel.Proofs.SimpleCore

namespace Sk

theorem C01_core (t : TaskIn) (hwf : DefsWF t.defs) (d : Def) (sd : SDef)
    (hd : d ∈ t.defs) (hk : d.kind = .simple sd) (hc : d.cons = [])
    (rs : List Res) (st : Stats) (hrun : runTask t = .ok (rs, st)) :
    (rs.filter (fun r => r.src == d.id)).map (fun r => (r.ln, r.iter)) = Spec.simple sd t.n ∧
    ∀ r ∈ rs.filter (fun r => r.src == d.id), SimpleMeta sd r := by
  obtain ⟨stF, out, fin, h1, h2, h3⟩ := runTask_proj t hwf d hd rs st hrun
  have hf := eofDef_simple hk h2
  subst hf
  rw [h3, List.append_nil, spec_simple_eq]
  exact soloLoop_simple hk (by simp [DSt.init, hc]) h1

/-- C01, for every line table and every set of registered definitions (simple and sequence,
    constrained or not, duplicates allowed) -/
theorem C01_simple_exact (t : TaskIn) (hwf : DefsWF t.defs) (d : Def) (sd : SDef)
    (hd : d ∈ t.defs) (hk : d.kind = .simple sd) (hc : d.cons = [])
    (rs : List Res) (st : Stats) (hrun : runTask t = .ok (rs, st)) :
    (rs.filter (fun r => r.src == d.id)).map (fun r => (r.ln, r.iter)) = Spec.simple sd t.n :=
  (C01_core t hwf d sd hd hk hc rs st hrun).1

/-- and each of them carries the search's tag and no sequence identity -/
theorem C01_simple_meta (t : TaskIn) (hwf : DefsWF t.defs) (d : Def) (sd : SDef)
    (hd : d ∈ t.defs) (hk : d.kind = .simple sd) (hc : d.cons = [])
    (rs : List Res) (st : Stats) (hrun : runTask t = .ok (rs, st)) :
    ∀ r ∈ rs.filter (fun r => r.src == d.id),
      r.tag = sd.tag ∧ r.seqId = none ∧ r.sec = none ∧ r.fields = sd.fields :=
  (C01_core t hwf d sd hd hk hc rs st hrun).2

namespace C01Ex

def sd : SDef :=
  { hint := some (fun i => i != 2),
    pats := [fun i => if i = 0 then some ⟨"a", []⟩ else none,
             fun i => if i = 1 ∨ i = 2 then some ⟨"b c", [some "c"]⟩ else none],
    tag := some "T" }

def d1 : Def := { id := 1, kind := .simple sd }

/-- a sequence search registered alongside, constrained, starting on line 1 -/
def d2 : Def :=
  { id := 2,
    kind := .seq { start := { pats := [fun i => if i = 0 then some ⟨"s", []⟩ else none] }, tag := "S" },
    cons := [fun _ => .pass] }

def t : TaskIn := { n := 3, dec := fun _ => true, defs := [d2, d1, d2] }

theorem wf : DefsWF t.defs := by
  intro a ha b hb he
  simp only [t, List.mem_cons, List.not_mem_nil, or_false] at ha hb
  rcases ha with rfl | rfl | rfl <;> rcases hb with rfl | rfl | rfl <;>
    first | rfl | (simp [d1, d2] at he)

end C01Ex

example : (match runTask C01Ex.t with
    | .ok (rs, st) => (rs.map (fun r => (r.src, r.ln, r.iter)), st.lines, st.results)
    | .error _ => ([], 0, 0)) =
    ([(1, 1, [some "a"]), (1, 2, [some "c"]), (2, 1, [some "s"])], 3, 3) := by
  decide

example : ∃ rs st, runTask C01Ex.t = .ok (rs, st) ∧ DefsWF C01Ex.t.defs ∧ C01Ex.d1 ∈ C01Ex.t.defs ∧
    C01Ex.d1.kind = .simple C01Ex.sd ∧ C01Ex.d1.cons = [] ∧
    Spec.simple C01Ex.sd C01Ex.t.n = [(1, [some "a"]), (2, [some "c"])] := by
  have hok : (match runTask C01Ex.t with | .ok _ => true | .error _ => false) = true := by decide
  cases h : runTask C01Ex.t with
  | error e => rw [h] at hok; cases hok
  | ok p =>
    exact ⟨p.1, p.2, rfl, C01Ex.wf, by simp [C01Ex.t], rfl, rfl, by decide⟩

end Sk

#print axioms Sk.runTask_proj
#print axioms Sk.runTask_stats
#print axioms Sk.C01_simple_exact
#print axioms Sk.C01_simple_meta
