/-
  C10 — a task that raises or a worker process that dies never hangs the run, never
  leaves anything behind, and the next run works.

  Model: `SkModel.Fault`.  The statements about reachable states are for every number of workers
  and every label sequence, i.e. every schedule and every fault point.
-/
import SkModel.Proofs.FaultInv

namespace Sk

open Flt

def FReach (n : Nat) (s : FState) : Prop := ∃ ls, frun (FState.init n) ls = some s

def FCleanReach (n : Nat) (s : FState) : Prop :=
  ∃ ls, Flt.Clean ls ∧ frun (FState.init n) ls = some s

theorem FCleanReach.reach {n : Nat} {s : FState} (h : FCleanReach n s) : FReach n s := by
  obtain ⟨ls, _, r⟩ := h
  exact ⟨ls, r⟩

theorem FReach.run {n : Nat} {s s' : FState} {ls : List FLbl} (h : FReach n s)
    (r : frun s ls = some s') : FReach n s' := by
  obtain ⟨l0, r0⟩ := h
  exact ⟨l0 ++ ls, by rw [frun_append _ r0]; exact r⟩

/-- the full inductive invariant (all clauses: `Flt.Inv`) -/
theorem C10_inv {n : Nat} {s : FState} (h : FReach n s) : Flt.Inv n s :=
  let ⟨_, r⟩ := h
  inv_run (inv_init n) r

/-- **lock ownership** in every reachable state -/
theorem C10_lock_owner_inv {n : Nat} {s : FState} (h : FReach n s) :
    s.n = n ∧
    (∀ w, s.lock = some (.worker w) →
      w < n ∧ (s.ws w = .inAlloc ∨ s.ws w = .inSync ∨ s.ws w = .dead)) ∧
    (∀ w, (s.ws w = .inAlloc ∨ s.ws w = .inSync) → s.lock = some (.worker w)) ∧
    (s.lock = some .info ↔ s.info = .holding) ∧
    (s.lock = some .main ↔ s.main = .holdsLock) ∧
    (∀ w, s.ws w = .dead → s.broken = true) ∧
    (s.broken = true → s.main ≠ .shutdownWait ∧ s.main ≠ .returned) ∧
    ((s.main = .reclaim ∨ s.main = .holdsLock) → s.broken = true ∧ s.allDead = true) ∧
    (Late s.main → s.broken = true → s.allDead = true ∧ ∀ w, s.lock ≠ some (.worker w)) ∧
    (Late s.main → s.broken = false → s.allDone = true) ∧
    (Late s.main → s.lock = none ∨ s.lock = some .info) ∧
    (s.info = .stopped ↔ (s.main = .teardown ∨ s.main = .raised ∨ s.main = .returned)) := by
  have hi := C10_inv h
  have hn := hi.hn
  exact ⟨hn, hi.lockW, hi.ownW, hi.lockI, hi.lockM, hi.deadBroken, hi.brokenMain,
    fun hm => ⟨(hi.reclaimDead hm).1, (allDead_iff s).mpr (hn ▸ (hi.reclaimDead hm).2)⟩,
    fun hl hb => ⟨(allDead_iff s).mpr (hn ▸ (hi.lateBroken hl hb).1), (hi.lateBroken hl hb).2⟩,
    fun hl hb => (allDone_iff s).mpr (hn ▸ hi.lateClean hl hb),
    late_lock hi, hi.infoStopped⟩

/-- **main-thread progress**: from every reachable state some schedule - one that needs no
    further fault - reaches a final state.  The info thread can loop for ever, so this is the
    meaningful form of "no hang". -/
theorem C10_main_progress {n : Nat} {s : FState} (h : FReach n s) :
    ∃ ls s', Flt.Clean ls ∧ frun s ls = some s' ∧ s'.final = true := by
  simp only [frun_eq_run]
  exact LTS.run_of_progress (μ := rank) inv_step (fun hi hf => progress hi (by simpa using hf))
    (C10_inv h)

/-- no reachable non-final state is stuck (and the enabled step is not a fault) -/
theorem C10_no_stuck {n : Nat} {s : FState} (h : FReach n s) (hf : s.final = false) :
    ∃ l s', Flt.isFault l = false ∧ fstep s l = some s' := by
  obtain ⟨l, t, hl, ht, _⟩ := progress (C10_inv h) hf
  exact ⟨l, t, hl, ht⟩

theorem C10_no_hang {n : Nat} {s : FState} (h : FReach n s) :
    (s.final = false → ∃ l s', fstep s l = some s') ∧
    ∃ ls s', frun s ls = some s' ∧ s'.final = true := by
  constructor
  · intro hf
    obtain ⟨l, s', _, hs⟩ := C10_no_stuck h hf
    exact ⟨l, s', hs⟩
  · obtain ⟨ls, s', _, r, f⟩ := C10_main_progress h
    exact ⟨ls, s', r, f⟩

/-- **outcome**: a run in which a task failed or a worker died raises; a run that returns
    has every worker `done` -/
theorem C10_outcome {n : Nat} {s : FState} (h : FReach n s) (hf : s.final = true) :
    (s.main = .raised ↔ (s.failed = true ∨ s.broken = true)) ∧
    (s.main = .returned → s.allDone = true) := by
  have hi := C10_inv h
  constructor
  · constructor
    · exact hi.raisedWhy
    · intro hfb
      rcases (final_iff s).mp hf with hm | hm
      · exact hm
      · have := hi.returnedWhy hm
        rcases hfb with h' | h' <;> simp_all
  · intro hm
    have := hi.returnedWhy hm
    exact (allDone_iff s).mpr (hi.hn ▸ hi.lateClean (by simp [Late, hm]) this.2)

/-- after a fault some schedule - one that needs no further fault - ends in `raised` -/
theorem C10_main_progress_after_fault {n : Nat} {s : FState} (h : FReach n s)
    (hfb : s.failed = true ∨ s.broken = true) :
    ∃ ls s', Flt.Clean ls ∧ frun s ls = some s' ∧ s'.main = .raised := by
  obtain ⟨ls, s', c, r, f⟩ := C10_main_progress h
  refine ⟨ls, s', c, r, ?_⟩
  have hfl := clean_run_flags c r
  refine (C10_outcome (h.run r) f).1.mpr ?_
  rw [hfl.1, hfl.2]; exact hfb

/-- **no leftovers** in a final state: the lock is free, both helper threads are joined, every
    worker is finished or gone -/
theorem C10_no_leftovers {n : Nat} {s : FState} (h : FReach n s) (hf : s.final = true) :
    s.lock = none ∧ s.info = .stopped ∧ s.resultsJoined = true ∧ s.quiet = true := by
  have hi := C10_inv h
  have hm := (final_iff s).mp hf
  have hl : Late s.main := by rcases hm with h' | h' <;> simp [Late, h']
  have hinfo : s.info = .stopped := hi.infoStopped.mpr (Or.inr hm)
  refine ⟨?_, hinfo, hi.joined (Or.inr (Or.inr hm)), ?_⟩
  · rcases late_lock hi hl with h' | h'
    · exact h'
    · have := hi.lockI.mp h'
      rw [hinfo] at this; cases this
  · rw [quiet_iff, hi.hn]
    intro w hw
    cases hb : s.broken with
    | true => exact Or.inr ((hi.lateBroken hl hb).1 w hw)
    | false => exact Or.inl (hi.lateClean hl hb w hw)

/-- fault-free runs: nothing failed, nobody died, the lock is never orphaned, every
    non-final state has an enabled (fault-free) step and a fault-free path to `returned` -/
theorem C10_clean_run_never_blocks {n : Nat} {s : FState} (h : FCleanReach n s) :
    (s.failed = false ∧ s.broken = false) ∧
    (∀ w, s.lock = some (.worker w) → s.ws w = .inAlloc ∨ s.ws w = .inSync) ∧
    (s.final = false → ∃ l s', Flt.isFault l = false ∧ fstep s l = some s') ∧
    (∃ ls s', Flt.Clean ls ∧ frun s ls = some s' ∧ s'.main = .returned) := by
  have hi := C10_inv h.reach
  have hfl : s.failed = false ∧ s.broken = false := by
    obtain ⟨ls, c, r⟩ := h
    exact clean_run_flags c r
  refine ⟨hfl, ?_, C10_no_stuck h.reach, ?_⟩
  · intro w hl
    rcases (hi.lockW w hl).2 with h' | h' | h'
    · exact Or.inl h'
    · exact Or.inr h'
    · have := hi.deadBroken w h'
      rw [hfl.2] at this; cases this
  · obtain ⟨ls, s', c, r, f⟩ := C10_main_progress h.reach
    have h2 := clean_run_flags c r
    exact ⟨ls, s', c, r, final_clean_returned (C10_inv (h.reach.run r)) f
      (h2.1.trans hfl.1) (h2.2.trans hfl.2)⟩

/-- the next run: from the initial state (lock free, as `C10_no_leftovers` guarantees at
    the end of the previous run) a schedule ends in `returned`, for every `n` -/
theorem C10_fresh_run_returns (n : Nat) :
    ∃ ls s', frun (FState.init n) ls = some s' ∧ s'.main = .returned := by
  obtain ⟨ls, s', _, r, m⟩ :=
    (C10_clean_run_never_blocks (n := n) (s := FState.init n) ⟨[], by simp [Flt.Clean], rfl⟩).2.2.2
  exact ⟨ls, s', r, m⟩

/-- Without `mainReclaim` (`fstepNR`): in every reachable state where the main thread is
    about to take the lock and a worker owns it, the lock is orphaned for ever - whatever
    is scheduled afterwards, the main thread stays in `reclaim`, `mainAcquire` stays
    disabled, no final state is reached, and the only steps that can be taken at all are
    the no-progress steps `infoWant` and `killAll`. -/
theorem C10_orphaned_lock_blocks_general {n : Nat} {s : FState} {w : Nat} (h : FReach n s)
    (hm : s.main = .reclaim) (hl : s.lock = some (.worker w)) :
    ∀ ls s', frunNR s ls = some s' →
      s'.final = false ∧ s'.main = .reclaim ∧ fstepNR s' .mainAcquire = none ∧
      (∃ v, s'.lock = some (.worker v) ∧ s'.ws v = .dead) ∧
      (∀ l t, fstepNR s' l = some t → l = .infoWant ∨ l = .killAll) := by
  intro ls s' r
  have ho := orphan_run (orphan_of_inv (C10_inv h) hm hl) r
  exact ⟨(orphan_blocked ho).1, ho.main, (orphan_blocked ho).2, ho.owner,
    fun l t ht => orphan_enabled ho ht⟩

def C10_crashInAlloc : List FLbl :=
  [.start 0, .wantAlloc 0, .acqAlloc 0, .crash 0, .killAll, .mainSeesBroken]

/-- the state after a crash inside allocation (2 workers), concretely -/
theorem C10_crashInAlloc_view :
    runView 2 C10_crashInAlloc =
      some ⟨[.dead, .dead], some (.worker 0), .idle, .reclaim, true, false, false⟩ := by
  decide

/-- the concrete instance: 2 workers, worker 0 dies inside `preallocate` -/
theorem C10_orphaned_lock_blocks :
    ∃ s, frun (FState.init 2) C10_crashInAlloc = some s ∧
      s.main = .reclaim ∧ s.lock = some (.worker 0) ∧ s.ws 0 = .dead ∧
      (∀ ls s', frunNR s ls = some s' → s'.final = false ∧ fstepNR s' .mainAcquire = none) ∧
      -- whereas with the reclaim step the run finishes
      (∃ ls s', frun s ls = some s' ∧ s'.main = .raised) := by
  have hv := C10_crashInAlloc_view
  simp only [runView, Option.map_eq_some_iff] at hv
  obtain ⟨s, r, hv⟩ := hv
  simp only [view, View.mk.injEq] at hv
  obtain ⟨hws, hl, _, hm, hb, _, _⟩ := hv
  have hr : FReach 2 s := ⟨_, r⟩
  have hd : s.ws 0 = .dead := ((C10_inv hr).reclaimDead (.inl hm)).2 0 (by decide)
  refine ⟨s, r, hm, hl, hd, ?_, ?_⟩
  · intro ls s' r'
    have := C10_orphaned_lock_blocks_general hr hm hl ls s' r'
    exact ⟨this.1, this.2.2.1⟩
  · obtain ⟨ls, s', _, r', m⟩ := C10_main_progress_after_fault hr (Or.inr hb)
    exact ⟨ls, s', r', m⟩

/-! Concrete schedules; a view lists the workers, the lock, the info thread, the main thread,
    `broken`, `failed`, `resultsJoined`. -/

/-- crash inside allocation while the info thread waits for the lock: the main thread
    reclaims the lock, the info thread gets and releases it, the run raises, lock free -/
theorem C10_ex_crash_in_alloc :
    runView 2 [.start 0, .wantAlloc 0, .acqAlloc 0, .start 1, .infoWant, .crash 0, .killAll,
        .mainSeesBroken, .mainReclaim, .joinResults, .infoAcq, .infoRel, .joinInfo, .teardown] =
      some ⟨[.dead, .dead], none, .stopped, .raised, true, false, true⟩ := by
  decide

/-- the other workers are killed wherever they are: worker 1 dies inside `sync()` holding
    the lock, after worker 0 crashed -/
theorem C10_ex_killed_in_sync :
    runView 2 [.start 0, .start 1, .wantSync 1, .acqSync 1, .crash 0, .killAll,
        .mainSeesBroken, .mainReclaim, .joinResults, .joinInfo, .teardown] =
      some ⟨[.dead, .dead], none, .stopped, .raised, true, false, true⟩ := by
  decide

/-- a task raises inside `sync()`: the lock is released by `with`, the other task is
    waited for, the run raises -/
theorem C10_ex_raise_in_sync :
    runView 2 [.start 0, .wantSync 0, .acqSync 0, .start 1, .wantSync 1, .raise_ 0,
        .mainSeesFailure, .acqSync 1, .relSync 1, .mainAllDone, .joinResults, .joinInfo,
        .teardown] =
      some ⟨[.done, .done], none, .stopped, .raised, false, true, true⟩ := by
  decide

theorem C10_ex_clean :
    runView 2 [.start 0, .wantAlloc 0, .acqAlloc 0, .relAlloc 0, .wantSync 0, .acqSync 0,
        .relSync 0, .start 1, .infoWant, .infoAcq, .wantSync 1, .infoRel, .acqSync 1, .relSync 1,
        .mainAllDone, .joinResults, .joinInfo, .teardown] =
      some ⟨[.done, .done], none, .stopped, .returned, false, false, true⟩ := by
  decide

/-- after `C10_crashInAlloc` (worker 0 dies inside `preallocate`) the dead worker 0 still owns the
    lock, so the main thread's `mainAcquire` is refused; of the main thread's steps only
    `mainReclaim` is enabled, the step `C10_ex_crash_in_alloc` takes at this point -/
theorem C10_ex_acquire_refused :
    (frun (FState.init 2) (C10_crashInAlloc ++ [.mainAcquire])).map view = none := by
  decide

end Sk

#print axioms Sk.C10_inv
#print axioms Sk.C10_lock_owner_inv
#print axioms Sk.C10_main_progress
#print axioms Sk.C10_no_stuck
#print axioms Sk.C10_no_hang
#print axioms Sk.C10_main_progress_after_fault
#print axioms Sk.C10_outcome
#print axioms Sk.C10_no_leftovers
#print axioms Sk.C10_clean_run_never_blocks
#print axioms Sk.C10_fresh_run_returns
#print axioms Sk.C10_orphaned_lock_blocks_general
#print axioms Sk.C10_orphaned_lock_blocks
#print axioms Sk.C10_ex_crash_in_alloc
#print axioms Sk.C10_ex_killed_in_sync
#print axioms Sk.C10_ex_raise_in_sync
#print axioms Sk.C10_ex_clean
#print axioms Sk.C10_ex_acquire_refused
