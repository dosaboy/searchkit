/-
  C15 — the de-duplicating result store (`ResultStoreBase`, model: `SkModel.Store`).

  Every theorem is a corollary of the invariant `Store.Inv` established in
  `SkModel.Proofs.StoreInv` for every store reachable from the empty store.
  Standing hypotheses: block size `0 < B`, and the blocks `[sup k, sup k + B)` granted
  to this store are pairwise disjoint.
-/
import SkModel.Proofs.StoreInv

namespace Sk
open StoreInv

variable {B : Nat} {pre : Bool} {sup : Nat → Nat}

/-! ### 1. the "failed to get store allocation" error is unreachable -/

theorem C15_no_alloc_error (hB : 0 < B)
    (hsup : ∀ i j, i ≠ j → sup i + B ≤ sup j ∨ sup j + B ≤ sup i)
    (pre : Bool) (ops : List (Option Val × Option Val × Option Val)) :
    ∃ st rs, Store.addAll { B := B, pre := pre } sup ops = .ok (st, rs) :=
  let ⟨st, rs, e, _⟩ := Store.Inv.addAll_spec hB hsup ops (.init hB pre sup)
  ⟨st, rs, e⟩

theorem C15_no_alloc_error_step (hB : 0 < B)
    (hsup : ∀ i j, i ≠ j → sup i + B ≤ sup j ∨ sup j + B ≤ sup i)
    {st : Store} (h : Store.Reach B pre sup st) (t s v : Option Val) :
    ∃ st' r, st.add sup t s v = .ok (st', r) :=
  let ⟨st', r, e, _⟩ := h.add_spec hB hsup t s v
  ⟨st', r, e⟩

/-- the same for any continuation of a reachable store -/
theorem C15_no_alloc_error_from (hB : 0 < B)
    (hsup : ∀ i j, i ≠ j → sup i + B ≤ sup j ∨ sup j + B ≤ sup i)
    {st : Store} (h : Store.Reach B pre sup st)
    (ops : List (Option Val × Option Val × Option Val)) :
    ∃ st' rs, st.addAll sup ops = .ok (st', rs) :=
  let ⟨st', rs, e, _⟩ := Store.Inv.addAll_spec hB hsup ops (h.inv hB hsup)
  ⟨st', rs, e⟩

/-! ### 2. one value per index, one index per value -/

theorem C15_injective (hB : 0 < B)
    (hsup : ∀ i j, i ≠ j → sup i + B ≤ sup j ∨ sup j + B ≤ sup i)
    {st : Store} (h : Store.Reach B pre sup st) :
    (st.data.map (·.1)).Nodup ∧ (st.data.map (·.2)).Nodup :=
  ⟨(h.inv hB hsup).keys_nodup hB hsup, (h.inv hB hsup).vals⟩

/-! ### 3. the store is append-only: an index, once handed out, resolves to its value for ever -/

theorem C15_append_only (hB : 0 < B)
    (hsup : ∀ i j, i ≠ j → sup i + B ≤ sup j ∨ sup j + B ≤ sup i)
    {st st' : Store} {t s v : Option Val} {r} (h : Store.Reach B pre sup st)
    (e : st.add sup t s v = .ok (st', r)) :
    (∃ ext, st'.data = st.data ++ ext) ∧ ∀ i x, st.get i = some x → st'.get i = some x := by
  have hx := ((h.add_spec hB hsup t s v).of_eq e).2.1
  exact ⟨hx.imp fun _ => Eq.symm, fun _ _ => hx.lookup_eq_some⟩

/-- … and the same between a reachable store and any later store of the same history -/
theorem C15_append_only_addAll (hB : 0 < B)
    (hsup : ∀ i j, i ≠ j → sup i + B ≤ sup j ∨ sup j + B ≤ sup i)
    {st st' : Store} {ops rs} (h : Store.Reach B pre sup st)
    (e : st.addAll sup ops = .ok (st', rs)) :
    (∃ ext, st'.data = st.data ++ ext) ∧ (∀ i x, st.get i = some x → st'.get i = some x) ∧
      Store.Reach B pre sup st' := by
  have hx := ((Store.Inv.addAll_spec hB hsup ops (h.inv hB hsup)).of_eq e).1
  exact ⟨hx.imp fun _ => Eq.symm, fun _ _ => hx.lookup_eq_some, h.addAll e⟩

/-! ### 4. `add` returns, for each component, an index that resolves to it -/

theorem C15_add_returns (hB : 0 < B)
    (hsup : ∀ i j, i ≠ j → sup i + B ≤ sup j ∨ sup j + B ≤ sup i)
    {st st' : Store} {t s v : Option Val} {ti si vi : Option Nat}
    (h : Store.Reach B pre sup st)
    (e : st.add sup t s v = .ok (st', (ti, si, vi))) :
    ((v = none → vi = none) ∧ ∀ x, v = some x → ∃ i, vi = some i ∧ st'.get i = some x) ∧
    ((t = none → ti = none) ∧ ∀ x, t = some x → ∃ i, ti = some i ∧ st'.get i = some x) ∧
    ((s = none → si = none) ∧ ∀ x, s = some x → ∃ i, si = some i ∧ st'.get i = some x) :=
  ((h.add_spec hB hsup t s v).of_eq e).2.2

/-! ### 5. equal values ⇔ same index -/

theorem C15_equal_iff (hB : 0 < B)
    (hsup : ∀ i j, i ≠ j → sup i + B ≤ sup j ∨ sup j + B ≤ sup i)
    {st : Store} (h : Store.Reach B pre sup st) {i j : Nat} {x y : Val}
    (hi : st.get i = some x) (hj : st.get j = some y) : i = j ↔ x = y := by
  constructor
  · rintro rfl; rw [hi] at hj; exact Option.some.inj hj
  · rintro rfl
    exact congrArg Prod.fst (Coll14.eq_of_map_eq (h.inv hB hsup).vals
      (Coll14.mem_of_lookup hi) (Coll14.mem_of_lookup hj) rfl)

/-! ### 6. the reverse maps are sound and have no duplicate keys -/

theorem C15_reverse_maps_sound (hB : 0 < B)
    (hsup : ∀ i j, i ≠ j → sup i + B ≤ sup j ∨ sup j + B ≤ sup i)
    {st : Store} (h : Store.Reach B pre sup st) :
    (∀ ns v i, (v, i) ∈ st.rev ns → st.get i = some v) ∧
    (∀ ns, ((st.rev ns).map (·.1)).Nodup) := by
  have inv := h.inv hB hsup
  exact ⟨fun ns v i hm => inv.get_of_mem hB hsup (inv.rev_sound ns v i hm), inv.rev_nodup⟩

/-! ### 7. without a pre-allocator the indices are 0, 1, 2, … -/

theorem C15_plain_indices (hB : 0 < B)
    (hsup : ∀ i j, i ≠ j → sup i + B ≤ sup j ∨ sup j + B ≤ sup i)
    {st : Store} (h : Store.Reach B pre sup st) (hpre : pre = false) :
    st.data.map (·.1) = List.range st.data.length := by
  subst hpre
  have hid : slot false sup B = id := by funext i; simp [slot]
  rw [(h.inv hB hsup).keys, hid, List.map_id]

/-! ### 8. with a pre-allocator the indices are the granted blocks, in order, and a block
    is requested only when the previous one is exhausted -/

theorem C15_block_indices (hB : 0 < B)
    (hsup : ∀ i j, i ≠ j → sup i + B ≤ sup j ∨ sup j + B ≤ sup i)
    {st : Store} (h : Store.Reach B pre sup st) (hpre : pre = true) :
    st.data.map (·.1) =
      ((List.range st.nblocks).flatMap (fun k => List.range' (sup k) B)).take st.data.length ∧
    st.nblocks = (st.data.length + B - 1) / B := by
  subst hpre
  have inv := h.inv hB hsup
  have hn : st.nblocks = (st.data.length + B - 1) / B := inv.nblk
  refine ⟨?_, hn⟩
  have hle : st.data.length ≤ st.nblocks * B :=
    (Nat.le_mul_iff_le_left hB).mpr (Nat.le_of_eq hn.symm)
  rw [inv.keys, blocks_eq_slots, ← List.map_take, List.take_range, Nat.min_eq_left hle]

/-- the current block is the last one granted -/
theorem C15_current_block (hB : 0 < B)
    (hsup : ∀ i j, i ≠ j → sup i + B ≤ sup j ∨ sup j + B ≤ sup i)
    {st : Store} (h : Store.Reach B pre sup st) :
    st.alloc = if st.nblocks = 0 then none else some (sup (st.nblocks - 1)) :=
  (h.inv hB hsup).alloc

/-! ### 9. non-vacuity: a concrete run (B = 2, blocks [0,2), [10,12), [20,22), …) with a
    repeated value, a value reused as a tag, and roll-overs exactly at block boundaries -/

def C15_demo_ops : List (Option Val × Option Val × Option Val) :=
  [ (some "t1", some "s1", some "a"),
    (some "t1", none,      some "b"),
    (none,      none,      some "c"),
    (some "a",  none,      some "a"),
    (none,      some "s1", some "d") ]

def C15_demo := Store.addAll { B := 2, pre := true } (fun k => 10 * k) C15_demo_ops

example : C15_demo.toOption.map (·.2) =
    some [ (some 1, some 10, some 0),
           (some 1, none,    some 11),
           (none,   none,    some 20),
           (some 0, none,    some 0),
           (none,   some 10, some 21) ] := by decide +kernel

example : C15_demo.toOption.map (fun r => (r.1.data, r.1.nblocks, r.1.alloc)) =
    some ([(0, "a"), (1, "t1"), (10, "s1"), (11, "b"), (20, "c"), (21, "d")], 3, some 20) := by
  decide +kernel

example : ∀ i j : Nat, i ≠ j → (fun k => 10 * k) i + 2 ≤ (fun k => 10 * k) j ∨
    (fun k => 10 * k) j + 2 ≤ (fun k => 10 * k) i := by
  intro i j h; simp only; omega

end Sk

#print axioms Sk.C15_no_alloc_error
#print axioms Sk.C15_no_alloc_error_step
#print axioms Sk.C15_no_alloc_error_from
#print axioms Sk.C15_injective
#print axioms Sk.C15_append_only
#print axioms Sk.C15_append_only_addAll
#print axioms Sk.C15_add_returns
#print axioms Sk.C15_equal_iff
#print axioms Sk.C15_reverse_maps_sound
#print axioms Sk.C15_plain_indices
#print axioms Sk.C15_block_indices
#print axioms Sk.C15_current_block
