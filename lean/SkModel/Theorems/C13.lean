/-
  C13 — content alone cannot make a search fail.

  With a lenient decode policy (every line decodes) the run returns normally; with strict
  decoding it raises UnicodeDecodeError exactly when some searched line is not valid
  UTF-8; content never causes any other failure.

  The hypothesis `Def.WF` is a condition on the *configuration* (and on what the regular
  expressions can return), not on the content: when field names are used, every captured
  group has one (`field_info` has as many names as the pattern has groups, and patterns
  have at least one group).  The last examples show it is needed: a definition whose
  field list is shorter than its groups does raise FileSearchException.

  Termination is by construction: the model functions used here are total, defined by structural
  recursion (the seeker's scans and walks with the code's own attempt counters as fuel).
-/
import SkModel.Gzip
import SkModel.Proofs.Outcome
import SkModel.Theorems.C12

namespace Sk

theorem C13_task_outcome (t : TaskIn) (hwf : ∀ d ∈ t.defs, d.WF) :
    ((∀ i, i < t.n → t.dec i = true) → ∃ rs st, runTask t = .ok (rs, st)) ∧
    ((∃ i, i < t.n ∧ t.dec i = false) → runTask t = .error .unicodeDecode) ∧
    (∀ e, runTask t = .error e → e = .unicodeDecode) := by
  have hd : ∀ d ∈ dedupDefs t.defs [], d.WF := fun d h => hwf d (dedup_mem h).1
  have hloop := linesLoop_outcome t.dec _ { sts := (dedupDefs t.defs []).map DSt.init }
    (List.range t.n) hd
  have hok : (∀ i, i < t.n → t.dec i = true) → ∃ rs st, runTask t = .ok (rs, st) := by
    intro hall
    obtain ⟨ls, hls⟩ := hloop.1 fun i hi => hall i (List.mem_range.mp hi)
    obtain ⟨fin, hfin⟩ := eofAll_isOk t.n _ ls.sts hd
    exact ⟨_, _, by simp only [runTask, ok_bind hls, ok_bind hfin]; rfl⟩
  have herr : (∃ i, i < t.n ∧ t.dec i = false) → runTask t = .error .unicodeDecode :=
    fun ⟨i, hi, hdec⟩ => error_bind (hloop.2 ⟨i, List.mem_range.mpr hi, hdec⟩) _
  refine ⟨hok, herr, fun e he => ?_⟩
  by_cases hall : ∀ i, i < t.n → t.dec i = true
  · obtain ⟨rs, st, h⟩ := hok hall
    rw [h] at he; cases he
  · have hex : ∃ i, i < t.n ∧ t.dec i = false := by
      simpa using hall
    rw [herr hex] at he
    cases he; rfl

/-- strict decoding: the run raises UnicodeDecodeError exactly when some searched line is
    not valid UTF-8 -/
theorem C13_task_iff (t : TaskIn) (hwf : ∀ d ∈ t.defs, d.WF) :
    runTask t = .error .unicodeDecode ↔ ∃ i, i < t.n ∧ t.dec i = false := by
  obtain ⟨h1, h2, _⟩ := C13_task_outcome t hwf
  refine ⟨fun he => ?_, h2⟩
  apply Classical.byContradiction
  intro hne
  obtain ⟨rs, st, h⟩ := h1 fun i hi => by simpa using fun hd => hne ⟨i, hi, hd⟩
  rw [h] at he; cases he

/-- C13 for a file on disk (plain or gzip), with an optional file-level constraint: `executeDisk`
    fails only with `.unicodeDecode`, and returns when every line decodes.

    The seek adds no failure: `applyToFile` maps every exception of the seeker to a position except
    its failed `assert`, and that one is unreachable (`startPos_ok`, from `seek_no_assert`), so the
    `.fileSearch` branch of `executeDisk` is never taken.  `hK` is not needed for this:
    `SeekShape.applyToFile_ok` holds for every `K`. -/
theorem C13_file_outcome (cfg : FileCfg) (d : DiskFile)
    (hK : ∀ K ts since, cfg.seek = some (K, ts, since) → 0 < K.H)
    (hwf : ∀ p, ∀ df ∈ (cfg.mkTask d.content p).defs, df.WF) :
    (∀ e, executeDisk cfg d = .error e → e = .unicodeDecode) ∧
    ((∀ p i, (cfg.mkTask d.content p).dec i = true) → ∃ rs st, executeDisk cfg d = .ok (rs, st)) := by
  rcases C12_outcome cfg d hK with hz | ⟨p, hp⟩
  · have : executeDisk cfg d = .ok ([], { lines := 0, results := 0 }) := by
      simp only [executeDisk, hz, if_true]
    exact ⟨fun e he => (by rw [this] at he; cases he), fun _ => ⟨_, _, this⟩⟩
  · obtain ⟨h1, _, h3⟩ := C13_task_outcome (cfg.mkTask d.content p) (hwf p)
    rw [hp]
    exact ⟨h3, fun hdec => h1 fun i _ => hdec p i⟩

namespace C13ex

def m1 : Match := { g0 := "s:ab", groups := [some "s:a"] }
def m2 : Match := { g0 := "s:ab", groups := [some "s:a", some "s:b"] }

def good : Def :=
  { id := 1, kind := .simple { pats := [fun _ => some m1], fields := some ["f1"] } }

def bad : Def :=
  { id := 2, kind := .simple { pats := [fun _ => some m2], fields := some ["f1"] } }

def strict : TaskIn := { n := 3, dec := fun i => i != 1, defs := [good] }
def lenient : TaskIn := { n := 3, dec := fun _ => true, defs := [good] }
def misconf : TaskIn := { n := 3, dec := fun _ => true, defs := [bad] }

/-- `Except` has no `DecidableEq` in core; a local one so that the examples go by `decide` -/
local instance {α : Type} [DecidableEq α] : DecidableEq (Except Err α) := fun a b =>
  match a, b with
  | .ok x, .ok y => if h : x = y then isTrue (by rw [h]) else isFalse (fun h' => by cases h'; exact h rfl)
  | .error x, .error y =>
    if h : x = y then isTrue (by rw [h]) else isFalse (fun h' => by cases h'; exact h rfl)
  | .ok _, .error _ => isFalse (fun h => by cases h)
  | .error _, .ok _ => isFalse (fun h => by cases h)

example : good.WF := by
  refine Or.inr (Or.inr ⟨["f1"], rfl, ?_⟩)
  intro m hm
  have : m = m1 := by
    rcases hm with ⟨i, hi⟩ | he
    · simp [SDef.run] at hi; exact hi.symm
    · cases he
  subst this
  decide

example : runTask strict = .error .unicodeDecode := by decide

example : (runTask lenient).toBool = true := by decide

example : runTask lenient = .ok
    ([ { src := 1, ln := 1, tag := none, seqId := none, sec := none,
         parts := [⟨1, some "s:a", some "f1"⟩], fields := some ["f1"] },
       { src := 1, ln := 2, tag := none, seqId := none, sec := none,
         parts := [⟨1, some "s:a", some "f1"⟩], fields := some ["f1"] },
       { src := 1, ln := 3, tag := none, seqId := none, sec := none,
         parts := [⟨1, some "s:a", some "f1"⟩], fields := some ["f1"] } ],
     { lines := 3, results := 3 }) := by decide

/-- a mis-configured definition (fewer field names than groups) DOES raise
    FileSearchException although every line decodes: WF is needed -/
example : runTask misconf = .error .fileSearch := by decide

example : ¬ bad.WF := by
  intro h
  rcases h with h | h | ⟨fs, hfs, hall⟩
  · cases h
  · cases h
  · cases hfs
    have := (hall m2 (Or.inl ⟨0, rfl⟩)).2
    exact absurd this (by decide)

end C13ex

end Sk

#print axioms Sk.mkParts_ok
#print axioms Sk.defStep_ok
#print axioms Sk.lineStep_outcome
#print axioms Sk.linesLoop_outcome
#print axioms Sk.C13_task_outcome
#print axioms Sk.C13_task_iff
#print axioms Sk.C13_file_outcome
