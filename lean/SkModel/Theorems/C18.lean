/-
  C18 — worker parallelism never exceeds min(max_parallel_tasks, CPUs, files), a
  max_parallel_tasks of 0 counting as 1;
  in the pool every task is taken exactly once by one of at most `n` workers.
-/
import SkModel.Proofs.PoolInv

namespace Sk
open Sk.Run

theorem C18_bounds (m c f : Nat) (hc : 1 ≤ c) :
    1 ≤ numParallel m c f ∧ numParallel m c f ≤ (if m = 0 then 1 else min m c) ∧
      numParallel m c f ≤ max f 1 := by
  unfold numParallel
  refine ⟨Nat.le_min.2 ⟨?_, ?_⟩, Nat.min_le_right .., Nat.le_trans (Nat.min_le_left ..) ?_⟩ <;>
    split <;> omega

theorem C18_value {m c f : Nat} (hm : 1 ≤ m) (_hc : 1 ≤ c) (hf : 1 ≤ f) :
    numParallel m c f = min m (min c f) := by
  rw [numParallel, if_neg (Nat.ne_of_gt hf), if_neg (Nat.ne_of_gt hm), Nat.min_comm, Nat.min_assoc]

theorem C18_zero_means_one {c f : Nat} (hf : 1 ≤ f) : numParallel 0 c f = 1 := by
  rw [numParallel, if_neg (Nat.ne_of_gt hf), if_pos rfl, Nat.min_eq_right hf]

theorem C18_plan (m c : Nat) :
    plan m c 1 = .inProcess ∧ plan m c 0 = .nothing ∧
      ∀ f, 2 ≤ f → plan m c f = .pool (numParallel m c f) :=
  ⟨rfl, rfl, fun f hf => by rw [plan, if_neg (by omega), if_neg (by omega)]⟩

/-- the pool never has more workers than `max_parallel_tasks` (0 counting as 1), CPUs, or files -/
theorem C18_plan_pool_bound {m c f w : Nat} (hc : 1 ≤ c) (h : plan m c f = .pool w) :
    1 ≤ w ∧ w ≤ (if m = 0 then 1 else min m c) ∧ w ≤ f := by
  unfold plan at h
  split at h
  · cases h
  · split at h
    · cases h
    · cases h
      have := C18_bounds m c f hc
      exact ⟨this.1, this.2.1, by omega⟩

def poolInit (tasks : List Nat) : PoolSt := { pending := tasks, busy := [], finished := [] }

/-- every task is pending, in progress or finished exactly once — never executed twice, never lost
    (holds for every task list; with `tasks.Nodup` the three parts are pairwise disjoint and
    duplicate free, `C18_pool_once_nodup`). -/
theorem C18_pool_once {n : Nat} {tasks : List Nat} {ls : List PoolLbl} {s : PoolSt}
    (_hnd : tasks.Nodup) (h : poolRun n (poolInit tasks) ls = some s) :
    (s.finished.map (·.2) ++ s.busy.map (·.2) ++ s.pending).Perm tasks :=
  (poolRun_inv h).once

theorem C18_pool_once_nodup {n : Nat} {tasks : List Nat} {ls : List PoolLbl} {s : PoolSt}
    (hnd : tasks.Nodup) (h : poolRun n (poolInit tasks) ls = some s) :
    (s.finished.map (·.2) ++ s.busy.map (·.2) ++ s.pending).Nodup :=
  (C18_pool_once hnd h).nodup_iff.mpr hnd

theorem C18_pool_workers {n : Nat} {tasks : List Nat} {ls : List PoolLbl} {s : PoolSt}
    (_hnd : tasks.Nodup) (h : poolRun n (poolInit tasks) ls = some s) :
    (∀ e ∈ s.busy, e.1 < n) ∧ (∀ e ∈ s.finished, e.1 < n) ∧ (s.busy.map (·.1)).Nodup ∧
      s.busy.length ≤ n ∧
      ((s.finished.map (·.1)).eraseDups).length ≤ n ∧
      ((s.finished.map (·.1) ++ s.busy.map (·.1)).eraseDups).length ≤ n := by
  have hi := poolRun_inv h
  have hb : ∀ w ∈ s.busy.map (·.1), w < n := List.forall_mem_map.2 hi.busyLt
  have hf : ∀ w ∈ s.finished.map (·.1), w < n := List.forall_mem_map.2 hi.finLt
  exact ⟨hi.busyLt, hi.finLt, hi.busyNodup, by simpa using length_le_of_nodup_lt hi.busyNodup hb,
    length_eraseDups_le hf, length_eraseDups_le (List.forall_mem_append.2 ⟨hf, hb⟩)⟩

theorem C18_pool_final {n : Nat} {tasks : List Nat} {ls : List PoolLbl} {s : PoolSt}
    (hnd : tasks.Nodup) (h : poolRun n (poolInit tasks) ls = some s)
    (hdone : s.pending = [] ∧ s.busy = []) :
    (s.finished.map (·.2)).Perm tasks := by
  have := C18_pool_once hnd h
  simpa [hdone.1, hdone.2] using this

/-- no deadlock while work is left, and every step strictly decreases
    `2 * pending + busy`: every schedule terminates (after at most `2 * tasks.length` steps). -/
theorem C18_pool_progress {n : Nat} (hn : 1 ≤ n) (s : PoolSt) :
    (s.pending ≠ [] ∨ s.busy ≠ [] → ∃ l s', poolStep n s l = some s') ∧
    (∀ l s', poolStep n s l = some s' →
      2 * s'.pending.length + s'.busy.length < 2 * s.pending.length + s.busy.length) :=
  ⟨poolStep_progress hn, fun _ _ h => poolStep_measure h⟩

theorem C18_pool_schedule_length {n : Nat} : ∀ {ls : List PoolLbl} {s s' : PoolSt},
    poolRun n s ls = some s' →
    ls.length + (2 * s'.pending.length + s'.busy.length) ≤ 2 * s.pending.length + s.busy.length :=
  fun h => LTS.run_measure poolStep_measure (poolRun_eq_run .. ▸ h)

example : numParallel 4 8 3 = 3 := by decide
example : numParallel 2 8 30 = 2 := by decide
example : numParallel 0 8 30 = 1 := by decide
example : plan 4 8 3 = .pool 3 := by decide

/-- a complete schedule of three tasks on two workers -/
example : poolRun 2 (poolInit [10, 11, 12])
    [.take 0, .take 1, .finish 1, .take 1, .finish 0, .finish 1]
    = some { pending := [], busy := [], finished := [(1, 12), (0, 10), (1, 11)] } := by decide

/-- a third worker does not exist; a busy worker cannot take a second task;
    a task cannot be taken when nothing is pending -/
example : poolStep 2 (poolInit [10, 11, 12]) (.take 2) = none := by decide
example : poolRun 2 (poolInit [10, 11, 12]) [.take 0, .take 0] = none := by decide
example : poolRun 2 (poolInit [10]) [.take 0, .take 1] = none := by decide
example : poolRun 2 (poolInit [10]) [.finish 0] = none := by decide

end Sk

#print axioms Sk.C18_bounds
#print axioms Sk.C18_value
#print axioms Sk.C18_zero_means_one
#print axioms Sk.C18_plan
#print axioms Sk.C18_plan_pool_bound
#print axioms Sk.C18_pool_once
#print axioms Sk.C18_pool_once_nodup
#print axioms Sk.C18_pool_workers
#print axioms Sk.C18_pool_final
#print axioms Sk.C18_pool_progress
#print axioms Sk.C18_pool_schedule_length
