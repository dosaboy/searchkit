/-
  C02 — a multi-process run returns only after every result produced by the search tasks
  has been collected, each under its own path (task.py `_flush_results_buffer`/`put_result`,
  search.py `_run_mp`/`_get_results`/`_purge_results`; model: `SkModel.Collect`).

  The theorems hold for all element types, any number `n` of tasks, all result lists
  `seq t`, every queue capacity (`none` = unbounded, or `some c`; progress needs `1 ≤ c`), all
  `FLUSH`, all `1 ≤ MAXB`, and *every* schedule (= every list of labels accepted by `cstep`).
  The queue is FIFO per producer only (`takeFirst`).
-/
import SkModel.Proofs.CollectInv

namespace Sk
open Col

variable {α : Type} {cap : Option Nat} {FLUSH MAXB n : Nat} {seq : Nat → List α}

/-- the full inductive invariant (`Col.Inv`) holds in every reachable state -/
theorem C02_reach_inv (hM : 1 ≤ MAXB) {ls : List CLbl} {s : CState α}
    (hr : crun (CState.init cap FLUSH MAXB n seq) ls = some s) : Inv cap n seq s :=
  inv_run ls (inv_init cap FLUSH MAXB n hM seq) hr

/-- nothing lost, nothing duplicated, nothing misfiled, order kept: for every source,
    collected ++ in flight ++ not yet put = the task's results -/
theorem C02_inv (hM : 1 ≤ MAXB) {ls : List CLbl} {s : CState α}
    (hr : crun (CState.init cap FLUSH MAXB n seq) ls = some s) :
    (∀ src, src < n →
      s.collected src ++ ((s.queue.filter (·.1 == src)).flatMap (·.2))
        ++ (s.tasks src).remaining.flatten = seq src) ∧
    (∀ src, n ≤ src → s.collected src = []) ∧
    (∀ e ∈ s.queue, e.1 < n) := by
  have hi := C02_reach_inv hM hr
  exact ⟨hi.data, hi.out, hi.qsrc⟩

/-- supporting clauses: counters, finished tasks, phases, constants -/
theorem C02_inv_counts (hM : 1 ≤ MAXB) {ls : List CLbl} {s : CState α}
    (hr : crun (CState.init cap FLUSH MAXB n seq) ls = some s) :
    s.ncollected = ((List.range n).map (fun t => (s.collected t).length)).sum ∧
    s.expected
      = ((List.range n).map (fun t => if (s.tasks t).finished then (seq t).length else 0)).sum ∧
    (∀ t, t < n → (s.tasks t).finished = true → (s.tasks t).remaining = []) ∧
    (s.phase ≠ .waiting → ∀ t, t < n → (s.tasks t).finished = true) ∧
    (s.phase = .returned → s.queue = []) ∧
    (∀ t, t < n → (s.tasks t).total = (seq t).length) ∧
    s.ntasks = n ∧ s.cap = cap := by
  have hi := C02_reach_inv hM hr
  exact ⟨hi.ncol, hi.exp, hi.fin, hi.phase, hi.drained, hi.total, hi.ntasks, hi.cap⟩

/-- a run that has returned has collected everything, each result under its own source -/
theorem C02_final (hM : 1 ≤ MAXB) {ls : List CLbl} {s : CState α}
    (hr : crun (CState.init cap FLUSH MAXB n seq) ls = some s) (hp : s.phase = .returned) :
    s.queue = [] ∧ ∀ src, s.collected src = (if src < n then seq src else []) := by
  have hi := C02_reach_inv hM hr
  have hq := hi.drained hp
  exact ⟨hq, collected_all hi (hi.phase (by simp [hp])) hq⟩

/-- the two counters agree as soon as the purge has emptied the queue -/
theorem C02_purge_counts (hM : 1 ≤ MAXB) {ls : List CLbl} {s : CState α}
    (hr : crun (CState.init cap FLUSH MAXB n seq) ls = some s) (hp : s.phase = .purge) :
    s.queue = [] → s.expected = s.ncollected := by
  have hi := C02_reach_inv hM hr
  exact counts_agree hi (hi.phase (by simp [hp]))

/-- the purge never waits for ever on the counters -/
theorem C02_purge_exit_enabled (hM : 1 ≤ MAXB) {ls : List CLbl} {s : CState α}
    (hr : crun (CState.init cap FLUSH MAXB n seq) ls = some s) (hp : s.phase = .purge)
    (hq : s.queue = []) : s.expected ≤ s.ncollected :=
  Nat.le_of_eq (C02_purge_counts hM hr hp hq)

/-- the collector thread may have left with batches still queued (it sees the queue empty, then
    the stop flag; a batch can land in between); the purge loop can always take the oldest one:
    `purgeGet` of the head entry's source is enabled -/
theorem C02_purgeGet_live (_hM : 1 ≤ MAXB) {ls : List CLbl} {s : CState α}
    (_hr : crun (CState.init cap FLUSH MAXB n seq) ls = some s) (hp : s.phase = .purge)
    {src : Nat} {b : List α} {q : List (Nat × List α)} (hq : s.queue = (src, b) :: q) :
    (cstep s (.purgeGet src)).isSome := by
  rw [step_iff.mpr (.purgeGet hp (hq ▸ takeFirst_head ..))]; rfl

/-- no reachable deadlock; a bounded queue needs room for one batch -/
theorem C02_progress (hM : 1 ≤ MAXB) (hc : ∀ c, cap = some c → 1 ≤ c)
    {ls : List CLbl} {s : CState α}
    (hr : crun (CState.init cap FLUSH MAXB n seq) ls = some s) (hp : s.phase ≠ .returned) :
    ∃ l s', cstep s l = some s' :=
  progress (C02_reach_inv hM hr) hc hp

/-- every step strictly decreases the measure `Col.mu` (from any state, reachable or not) -/
theorem C02_terminates {s s' : CState α} {l : CLbl} (h : cstep s l = some s') :
    mu s' < mu s :=
  mu_step h

/-- no schedule accepted from `s` is longer than `mu s` -/
theorem C02_run_bounded (s : CState α) (ls : List CLbl) (h : crun s ls ≠ none) :
    ls.length ≤ mu s := by
  obtain ⟨s', h'⟩ := Option.ne_none_iff_exists'.mp h
  have := LTS.run_measure mu_step (crun_eq_run .. ▸ h')
  omega

/-- a maximal schedule (nothing enabled any more) from the initial state has returned -/
theorem C02_maximal_returns (hM : 1 ≤ MAXB) (hc : ∀ c, cap = some c → 1 ≤ c)
    {ls : List CLbl} {s : CState α}
    (hr : crun (CState.init cap FLUSH MAXB n seq) ls = some s)
    (hmax : ∀ l, cstep s l = none) :
    s.phase = .returned ∧ s.queue = [] ∧
      ∀ src, s.collected src = (if src < n then seq src else []) := by
  have hp : s.phase = .returned := Classical.byContradiction fun hp => by
    obtain ⟨l, s', h⟩ := C02_progress hM hc hr hp
    cases (hmax l).symm.trans h
  exact ⟨hp, C02_final hM hr hp⟩

def C02_demo_seq : Nat → List Nat
  | 0 => [1, 2, 3]
  | 1 => [4, 5]
  | _ => []

/-- observable part of a state (the state itself has function fields) -/
structure C02Obs where
  phase : CPhase
  queue : List (Nat × List Nat)
  collected0 : List Nat
  collected1 : List Nat
  ncollected : Nat
  expected : Nat
deriving DecidableEq, Repr

def C02_obs (s : CState Nat) : C02Obs :=
  ⟨s.phase, s.queue, s.collected 0, s.collected 1, s.ncollected, s.expected⟩

/-- the demo system: 2 tasks, `FLUSH = 2`, `MAXB = 2` -/
def C02_demo_init (cap : Option Nat) : CState Nat := CState.init cap 2 2 2 C02_demo_seq

/-- the same state written out (`chunks` is defined by well-founded recursion, which plain
    `decide` does not unfold; `simp` does) -/
def C02_demo_init' (cap : Option Nat) : CState Nat :=
  { cap := cap, ntasks := 2,
    tasks := fun t => match t with
      | 0 => { remaining := [[1, 2], [3]], total := 3 }
      | 1 => { remaining := [[4, 5]], total := 2 }
      | _ => { remaining := [], total := 0 } }

theorem C02_demo_init_eq (cap : Option Nat) : C02_demo_init cap = C02_demo_init' cap := by
  unfold C02_demo_init C02_demo_init' CState.init
  congr 1
  funext t
  match t with
  | 0 | 1 | _ + 2 => simp [C02_demo_seq, flushBatches, flushBatchesGo, chunks]

/-- task 0 puts its last batch, both tasks finish and the main thread tells the collector to
    stop while that batch is still queued; here the collector drains it before leaving (it
    need not: see `C02_demo_sched_late`) -/
def C02_demo_sched : List CLbl :=
  [.put 0, .threadGet 0, .put 1, .finish 1, .threadGet 1, .put 0, .finish 0,
   .stopThread, .threadGet 0, .threadExit, .purgeExit]

example : (crun (C02_demo_init (some 1)) C02_demo_sched).map C02_obs
    = some ⟨.returned, [], [1, 2, 3], [4, 5], 5, 5⟩ := by
  rw [C02_demo_init_eq]; decide

/-- the state just after `stopThread`: one batch still queued -/
example : (crun (C02_demo_init (some 1)) (C02_demo_sched.take 8)).map C02_obs
    = some ⟨.stopping, [(0, [3])], [1, 2], [4, 5], 4, 5⟩ := by
  rw [C02_demo_init_eq]; decide

/-- with capacity 1 a second `put` must wait for the collector -/
example : (crun (C02_demo_init (some 1)) [.put 0, .put 1]).map C02_obs = none := by
  rw [C02_demo_init_eq]; decide

/-- unbounded queue: a batch of task 1 overtakes one of task 0, the result is the same -/
example : (crun (C02_demo_init none)
      [.put 0, .put 0, .put 1, .threadGet 1, .finish 0, .finish 1, .threadGet 0,
       .stopThread, .threadGet 0, .threadExit, .purgeExit]).map C02_obs
    = some ⟨.returned, [], [1, 2, 3], [4, 5], 5, 5⟩ := by
  rw [C02_demo_init_eq]; decide

/-- in this run the collector drained the queue before leaving, so `purgeGet` finds nothing
    (it is refused on an empty queue) -/
example : (crun (C02_demo_init (some 1)) (C02_demo_sched.take 10 ++ [.purgeGet 0])).map C02_obs = none := by
  rw [C02_demo_init_eq]; decide

/-- the collector leaves right after `stopThread` while task 0's last batch is still queued;
    the purge collects it and only then returns -/
def C02_demo_sched_late : List CLbl :=
  [.put 0, .threadGet 0, .put 1, .finish 1, .threadGet 1, .put 0, .finish 0,
   .stopThread, .threadExit, .purgeGet 0, .purgeExit]

example : (crun (C02_demo_init (some 1)) C02_demo_sched_late).map C02_obs
    = some ⟨.returned, [], [1, 2, 3], [4, 5], 5, 5⟩ := by
  rw [C02_demo_init_eq]; decide

/-- the state just after `threadExit`: phase `purge`, one batch still queued, counters differ -/
example : (crun (C02_demo_init (some 1)) (C02_demo_sched_late.take 9)).map C02_obs
    = some ⟨.purge, [(0, [3])], [1, 2], [4, 5], 4, 5⟩ := by
  rw [C02_demo_init_eq]; decide

/-- there `purgeExit` is refused (queue not empty, counters not yet equal) -/
example : (crun (C02_demo_init (some 1)) (C02_demo_sched_late.take 9 ++ [.purgeExit])).map C02_obs
    = none := by
  rw [C02_demo_init_eq]; decide

end Sk

#print axioms Sk.chunks_flatten
#print axioms Sk.flush_flatten
#print axioms Sk.flush_sizes
#print axioms Sk.flush_total
#print axioms Sk.C02_reach_inv
#print axioms Sk.C02_inv
#print axioms Sk.C02_inv_counts
#print axioms Sk.C02_final
#print axioms Sk.C02_purge_exit_enabled
#print axioms Sk.C02_purge_counts
#print axioms Sk.C02_purgeGet_live
#print axioms Sk.C02_progress
#print axioms Sk.C02_terminates
#print axioms Sk.C02_run_bounded
#print axioms Sk.C02_maximal_returns
#print axioms Sk.C02_demo_init_eq
