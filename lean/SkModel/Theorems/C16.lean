/-
  SkModel.Theorems.C16 — the `since` constraint: a line passes exactly when its timestamp is
  at or after `current_date - window` on the (proleptic Gregorian) time line, lines with no
  timestamp are undecided, and the pass/fail counters count decided lines.
-/
import SkModel.Since
import SkModel.Proofs.Calendar

namespace Sk
open Sk.Cal

/-- On valid date-times, `datetime.__lt__` (lexicographic) is the order of the time line. -/
theorem civil_order (a b : Civil) (ha : a.valid = true) (hb : b.valid = true) :
    a.lt b = true ↔ a.toSeconds < b.toSeconds := by
  constructor
  · exact lt_toSeconds a b ha hb
  · intro h
    rcases lt_trichotomy a b with h1 | h1 | h1
    · exact h1
    · subst h1; omega
    · have := lt_toSeconds b a hb ha h1; omega

/-- Distinct valid date-times are distinct instants. -/
theorem civil_toSeconds_inj (a b : Civil) (ha : a.valid = true) (hb : b.valid = true)
    (h : a.toSeconds = b.toSeconds) : a = b := by
  rcases lt_trichotomy a b with h1 | h1 | h1
  · have := lt_toSeconds a b ha hb h1; omega
  · exact h1
  · have := lt_toSeconds b a hb ha h1; omega

/-- The window: `days` if non-zero, otherwise `hours`. -/
theorem C16_window (days hours : Int) :
    windowSeconds days hours = if days ≠ 0 then days * 86400 else hours * 3600 := rfl

/-- The default window (`days = 0`, `hours = 24`) is 24 hours. -/
theorem C16_default_24h : windowSeconds 0 24 = 86400 := by decide

/-- C16: a line passes iff its timestamp is at or after `current_date - window`;
    the boundary instant itself passes.  `hsince` is where `timedelta` enters: that `since_date`
    exists, is valid and is the instant `current_date - window` is assumed here, not derived (the
    model has no way back from seconds to a date); the harness checks Python's `since_date`
    against the Lean calendar. -/
theorem C16_pass_iff (cur ts since : Civil) (hc : cur.valid = true) (ht : ts.valid = true)
    (hs : since.valid = true) (days hours : Int)
    (hsince : since.toSeconds = cur.toSeconds - windowSeconds days hours) :
    applyToLine since (some ts) =
      if cur.toSeconds - windowSeconds days hours ≤ ts.toSeconds then COut.pass else COut.fail := by
  have _ := hc -- not needed: only `ts` and `since` are compared
  have ho := civil_order ts since ht hs
  simp only [applyToLine]
  by_cases hlt : ts.lt since = true
  · have h1 := ho.mp hlt
    rw [if_pos hlt, if_neg (by omega)]
  · have hn : ¬ ts.toSeconds < since.toSeconds := fun h => hlt (ho.mpr h)
    rw [if_neg hlt, if_pos (by omega)]

/-- A line without a timestamp is left undecided (that is all "undecidable" means here). -/
theorem C16_undecidable (since : Civil) : applyToLine since none = .undec := rfl

theorem applyMany_cons (since : Civil) (st : SinceStats) (t : Option Civil)
    (ts : List (Option Civil)) :
    applyMany since st (t :: ts) =
      ((applyMany since (applyCount since st t).1 ts).1,
        (applyCount since st t).2 :: (applyMany since (applyCount since st t).1 ts).2) := rfl

theorem applyCount_snd (since : Civil) (st : SinceStats) (t : Option Civil) :
    (applyCount since st t).2 = applyToLine since t := by
  unfold applyCount; cases applyToLine since t <;> rfl

theorem applyCount_fst (since : Civil) (st : SinceStats) (t : Option Civil) :
    (applyCount since st t).1.pass = st.pass + (if applyToLine since t == .pass then 1 else 0) ∧
    (applyCount since st t).1.fail = st.fail + (if applyToLine since t == .fail then 1 else 0) ∧
    (if applyToLine since t == .pass then 1 else 0) + (if applyToLine since t == .fail then 1 else 0)
      = if t.isSome then 1 else 0 := by
  cases t with
  | none => simp [applyCount, applyToLine]
  | some c => cases hlt : c.lt since <;> simp [applyCount, applyToLine, hlt]

/-- Counters: `pass` counts passing lines, `fail` failing ones, `pass + fail` decided lines. -/
theorem C16_counters (since : Civil) (st : SinceStats) (lines : List (Option Civil)) :
    let r := applyMany since st lines
    r.1.pass = st.pass + (r.2.filter (· == COut.pass)).length ∧
    r.1.fail = st.fail + (r.2.filter (· == COut.fail)).length ∧
    r.2 = lines.map (applyToLine since) ∧
    (r.1.pass + r.1.fail) = st.pass + st.fail + (lines.filter Option.isSome).length := by
  induction lines generalizing st with
  | nil => simp [applyMany]
  | cons t ts ih =>
    obtain ⟨h1, h2, h3, h4⟩ := ih (applyCount since st t).1
    obtain ⟨c1, c2, c3⟩ := applyCount_fst since st t
    -- as counts, every side grows by what `applyCount_fst` says of this call
    simp only [applyMany_cons, applyCount_snd, ← List.countP_eq_length_filter, List.countP_cons,
      List.map_cons, h3, true_and] at h1 h2 h4 ⊢
    omega

-- the hypotheses of `C16_pass_iff` are satisfiable: default 24 h window across a leap day
example : (⟨2024,3,1,0,0,0⟩ : Civil).valid = true ∧ (⟨2024,2,29,0,0,0⟩ : Civil).valid = true ∧
    (⟨2024,2,29,0,0,0⟩ : Civil).toSeconds =
      (⟨2024,3,1,0,0,0⟩ : Civil).toSeconds - windowSeconds 0 24 := by decide +kernel
-- the boundary instant passes, one second before fails
example : applyToLine ⟨2024,2,29,0,0,0⟩ (some ⟨2024,2,29,0,0,0⟩) = .pass := by decide +kernel
example : applyToLine ⟨2024,2,29,0,0,0⟩ (some ⟨2024,2,28,23,59,59⟩) = .fail := by decide +kernel
example : applyToLine ⟨2024,2,29,0,0,0⟩ (some ⟨2024,2,29,0,0,1⟩) = .pass := by decide +kernel
example : (⟨2024,2,29,0,0,0⟩ : Civil).toSeconds - (⟨2024,2,28,23,59,59⟩ : Civil).toSeconds = 1 := by
  decide +kernel
-- `days` takes precedence over `hours`; a 2-day window from 2024-03-01 reaches 2024-02-28
example : windowSeconds 2 7 = 2 * 86400 := by decide +kernel
example : (⟨2024,2,28,0,0,0⟩ : Civil).toSeconds =
    (⟨2024,3,1,0,0,0⟩ : Civil).toSeconds - windowSeconds 2 0 := by decide +kernel
-- leap day: 2024 has Feb 29, 2023 and 1900 do not, 2000 does
example : (⟨2024,3,1,0,0,0⟩ : Civil).toSeconds - (⟨2024,2,28,0,0,0⟩ : Civil).toSeconds
    = 2 * 86400 := by decide +kernel
example : (⟨2023,3,1,0,0,0⟩ : Civil).toSeconds - (⟨2023,2,28,0,0,0⟩ : Civil).toSeconds
    = 86400 := by decide +kernel
example : (⟨1900,3,1,0,0,0⟩ : Civil).toSeconds - (⟨1900,2,28,0,0,0⟩ : Civil).toSeconds
    = 86400 := by decide +kernel
example : (⟨2000,3,1,0,0,0⟩ : Civil).toSeconds - (⟨2000,2,28,0,0,0⟩ : Civil).toSeconds
    = 2 * 86400 := by decide +kernel
example : (⟨2024,2,29,0,0,0⟩ : Civil).valid = true ∧ (⟨2023,2,29,0,0,0⟩ : Civil).valid = false ∧
    (⟨1900,2,29,0,0,0⟩ : Civil).valid = false ∧ (⟨2000,2,29,0,0,0⟩ : Civil).valid = true := by
  decide +kernel
example : isLeap 1900 = false ∧ isLeap 2000 = true ∧ isLeap 2024 = true ∧ isLeap 2023 = false := by
  decide +kernel
-- year boundary: 2023-12-31 23:59:59 is one second before 2024-01-01 00:00:00
example : (⟨2024,1,1,0,0,0⟩ : Civil).toSeconds - (⟨2023,12,31,23,59,59⟩ : Civil).toSeconds = 1 := by
  decide +kernel
example : (⟨2023,12,31,23,59,59⟩ : Civil).lt ⟨2024,1,1,0,0,0⟩ = true := by decide +kernel
example : applyToLine ⟨2024,1,1,0,0,0⟩ (some ⟨2023,12,31,23,59,59⟩) = .fail := by decide +kernel
example : applyToLine ⟨2024,1,1,0,0,0⟩ (some ⟨2024,1,1,0,0,0⟩) = .pass := by decide +kernel
-- Python anchors: date(1,1,1).toordinal() = 1, date(2024,2,29).toordinal() = 738945,
-- date(9999,12,31).toordinal() = 3652059
example : (⟨1,1,1,0,0,0⟩ : Civil).ordinal = 1 ∧ (⟨2024,2,29,0,0,0⟩ : Civil).ordinal = 738945 ∧
    (⟨9999,12,31,0,0,0⟩ : Civil).ordinal = 3652059 := by decide +kernel
example : applyMany ⟨2024,2,29,0,0,0⟩ {} [some ⟨2024,2,29,0,0,0⟩, none, some ⟨2024,2,28,23,59,59⟩]
    = ({ pass := 1, fail := 1 }, [.pass, .undec, .fail]) := by decide +kernel
-- outside validity the lexicographic order and the time line can disagree (so `valid` is needed)
example : (⟨2024,1,40,0,0,0⟩ : Civil).lt ⟨2024,2,1,0,0,0⟩ = true ∧
    ¬ (⟨2024,1,40,0,0,0⟩ : Civil).toSeconds < (⟨2024,2,1,0,0,0⟩ : Civil).toSeconds := by decide +kernel

end Sk

#print axioms Sk.civil_order
#print axioms Sk.civil_toSeconds_inj
#print axioms Sk.C16_window
#print axioms Sk.C16_default_24h
#print axioms Sk.C16_pass_iff
#print axioms Sk.C16_undecidable
#print axioms Sk.C16_counters
#print axioms Sk.applyMany_cons
#print axioms Sk.applyCount_snd
